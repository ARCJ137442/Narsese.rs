/-
  Model driver: reads protocol lines `op \t fmt \t payload [\t ...]` on stdin and prints what the MODEL
  computes, one line per input line, in the same canonical text the Rust harness prints for the real code.
-/
import Driver.Codec
import NarseseModel.PegSem
import NarseseModel.PegWF
import NarseseModel.EDoors
import Proofs.Spelling.Formatted
import Proofs.LRT.Bool
import Proofs.Pipelines.Fold
import Proofs.Pipelines.Spell
import Proofs.Typst.ValueInj
set_option autoImplicit false

namespace Narsese.Driver
open Narsese

def efmtOf : String → Except String EFormat
  | "ascii" => .ok Gen.asciiE | "latex" => .ok Gen.latexE | "han" => .ok Gen.hanE
  | f => .error s!"unknown format {f}"
def lfmtOf : String → Except String LFormat
  | "ascii" => .ok Gen.asciiL | "latex" => .ok Gen.latexL | "han" => .ok Gen.hanL
  | f => .error s!"unknown format {f}"

def showRes {α : Type} (p : α → String) : Res α → String
  | .ok a => s!"ok {p a}"
  | .err => "err"
  | .panic => "panic"
  | .fuel => "fuel"

def runRd {α : Type} (r : Rd α) (payload : String) : Except String α :=
  match r.run (tokens payload) with
  | .ok (a, _) => .ok a
  | .error e => .error e

def bit (b : Bool) : String := if b then "1" else "0"

def listStr (xs : List String) : String := if xs.isEmpty then "[ ]" else s!"[ {" ".intercalate xs} ]"

def catName : Category → String
  | .atom => "atom" | .compound => "compound" | .statement => "statement"
def capName : Capacity → String
  | .atom => "atom" | .unary => "unary" | .binaryVec => "binaryVec" | .binarySet => "binarySet"
  | .vec => "vec" | .set => "set"

def apiOut (t : Term) : String :=
  let cap := t.capacity
  let preds := s!"{bit t.isAtom}{bit t.isCompound}{bit t.isStatement} " ++
    s!"{bit (cap == .atom)}{bit (cap == .unary)}{bit (cap == .binaryVec || cap == .binarySet)}" ++
    s!"{bit (cap == .binaryVec)}{bit (cap == .binarySet)}{bit (cap == .vec || cap == .set)}" ++
    s!"{bit (cap == .vec)}{bit (cap == .set)}"
  let sh (xs : List Term) := listStr (xs.map (showTerm .raw))
  let cc := match t.compoundComponents with
    | some v => s!"some {sh v}"
    | none => "none"
  let name := match t.atomName with
    | some n => s!"some {hs n}"
    | none => "none"
  let ext := match t.extract with
    | .ok v => s!"ok {sh v}"
    | .panic => "panic"
    | .err => "err"
    | .fuel => "fuel"
  s!"cat={catName t.category} cap={capName cap} preds={preds} comps={sh t.components} " ++
  s!"compsph={sh t.componentsWithPlaceholder} cc={cc} name={name} extract={ext}"

def lapiOut (t : LTerm) : String :=
  s!"cat={catName t.category} cap={capName t.capacity} extract={listStr (t.extract.map showLTerm)}"

def showGT (t : Res (GTruth Num)) : String := showRes (fun g => showTruth .canon (Truth.ofG g)) t
def showGB (t : Res (GBudget Num)) : String := showRes (fun g => showBudget .canon (Budget.ofG g)) t
def showNumRes (r : Res Num) : String := showRes (fun x => hexOf x.bits) r

def tctorOut (xs : List Num) : String :=
  let v := Num.in01
  let tf := showGT (GTruth.tryFromFloats v xs)
  let s1 := match xs with
    | f :: _ => showGT (GTruth.newSingle v f)
    | _ => "na"
  let s2 := match xs with
    | f :: c :: _ => showGT (GTruth.newDouble v f c)
    | _ => "na"
  let direct : GTruth Num := match xs with
    | [] => .empty
    | [f] => .single f
    | f :: c :: _ => .double f c
  s!"try={tf} ; single={s1} ; double={s2} ; f={showNumRes direct.f} ; c={showNumRes direct.c}"

def bctorOut (xs : List Num) : String :=
  let v := Num.in01
  let tf := showGB (GBudget.tryFromFloats v xs)
  let s1 := match xs with
    | p :: _ => showGB (GBudget.newSingle v p)
    | _ => "na"
  let s2 := match xs with
    | p :: d :: _ => showGB (GBudget.newDouble v p d)
    | _ => "na"
  let s3 := match xs with
    | p :: d :: q :: _ => showGB (GBudget.newTriple v p d q)
    | _ => "na"
  let direct : GBudget Num := match xs with
    | [] => .empty
    | [p] => .single p
    | [p, d] => .double p d
    | p :: d :: q :: _ => .triple p d q
  s!"try={tf} ; single={s1} ; double={s2} ; triple={s3} ; p={showNumRes direct.p} ; d={showNumRes direct.d} ; q={showNumRes direct.q}"

def evnOut (x : Num) : String :=
  let v := x.in01
  let tv := (tryValidate Num.in01 x).isOk
  let vv := match validate Num.in01 x with
    | .ok _ => "ok"
    | _ => "panic"
  s!"valid={bit v} try={bit tv} validate={vv}"

def castOut (n : Narsese) : String :=
  let flags := s!"{bit n.isTerm}{bit n.isSentence}{bit n.isTask}"
  let it := showRes (showTerm .canon) n.tryIntoTerm
  let is_ := showRes (showSentence .canon) n.tryIntoSentence
  let ik := showRes (showTask .canon) n.tryIntoTask
  let tc := showRes (showTask .canon) (n.tryIntoTaskCompatible Sentence.castToTask)
  let cs := match n.tryCastToSentence Task.tryCastToSentence with
    | .inl v => s!"ok {showNarsese .canon v}"
    | .inr v => s!"err {showNarsese .canon v}"
  s!"kind={n.kind} flags={flags} term={it} ; sentence={is_} ; task={ik} ; compat={tc} ; cast={cs}"

def lcastOut (n : LNarsese) : String :=
  let it := showRes showLTerm n.tryIntoTerm
  let is_ := showRes showLSentence n.tryIntoSentence
  let ik := showRes showLTask n.tryIntoTask
  let tc := showRes showLTask (n.tryIntoTaskCompatible LSentence.castToTask)
  let cs := match n.tryCastToSentence LTask.tryCastToSentence with
    | .inl v => s!"ok {showLNarsese v}"
    | .inr v => s!"err {showLNarsese v}"
  s!"kind={n.kind} term={it} ; sentence={is_} ; task={ik} ; compat={tc} ; cast={cs}"

def typstOut (n : Narsese) : String :=
  let C := Gen.typstC
  let s := match n with
    | .term t => C.typstTerm t
    | .sentence s => C.typstSentence s
    | .task k => C.typstTask k
  s!"s {hs s}"

/-- the stand-alone Typst renderings of the parts of a value (term, punctuation, stamp, truth, budget) -/
def typstPartsOut (n : Narsese) : String :=
  let C := Gen.typstC
  let sentParts (s : Sentence) : List Str :=
    [C.typstTerm s.term, C.typstPunct s.punct, C.typstStamp s.stamp, C.typstTruth s.truthOrEmpty]
  let parts : List Str := match n with
    | .term t => [C.typstTerm t]
    | .sentence s => sentParts s
    | .task k => sentParts k.sentence ++ [C.typstBudget k.budget]
  "s " ++ " ".intercalate (parts.map hs)

partial def rdManyStr (acc : List Str) : Rd (List Str) := do
  if (← atEnd) then pure acc.reverse else
    let s ← rdStr
    rdManyStr (s :: acc)

partial def rdManyTerm (acc : List Term) : Rd (List Term) := do
  if (← atEnd) then pure acc.reverse else
    let s ← rdTerm
    rdManyTerm (s :: acc)

partial def rdManyNum (acc : List Num) : Rd (List Num) := do
  if (← atEnd) then pure acc.reverse else
    let s ← rdNum
    rdManyNum (s :: acc)

/-- what a `Hasher` sees of a feed: the bytes. `write_usize` / `write_u64` write eight little-endian bytes,
`str::hash` the UTF-8 bytes followed by 0xff — so `usize 0` and `u64 0`, or differently grouped writes with the
same bytes, are ONE input to the hasher (e.g. an empty image followed by an empty set, and the other way round) -/
def le8 (n : Nat) : List Nat := (List.range 8).map (fun i => (n / 256 ^ i) % 256)

def tokBytes : Tok → List Nat
  | .str s => (String.ofList s).toUTF8.toList.map (·.toNat) ++ [255]
  | .usize n => le8 n
  | .u64 n => le8 n

def feedBytes (toks : List Tok) : List Nat := toks.flatMap tokBytes

/-- a stand-in for the fixed-key `DefaultHasher` on an element's own feed (the theorems quantify over
every such function; the driver needs one that depends on the bytes only and separates different byte strings) -/
def driverH0 (toks : List Tok) : Nat :=
  (feedBytes toks).foldl (fun acc b => (acc * 6364136223846793005 + b + 1442695040888963407) % 2 ^ 64) 14695981039346656037

/-- every number handed to a printer must be what Rust prints for it -/
def numsOf : Narsese → List Num
  | .term _ => []
  | .sentence s => s.truthOrEmpty.components
  | .task k => k.budget.components ++ k.sentence.truthOrEmpty.components

def exec (op fmt payload : String) : Except String String := do
  match op with
  | "efmt" =>
    let F ← efmtOf fmt
    let v ← runRd rdNarsese payload
    pure s!"s {hs (F.fmtNarsese v)}"
  | "eparse" | "echars" =>
    let F ← efmtOf fmt
    let s ← runRd rdStr payload
    pure (showRes (showNarsese .canon) (F.eparse s))
  | "emacro" =>
    let F ← efmtOf fmt
    let s ← runRd rdStr payload
    let C := Gen.typstC
    pure (showRes (showNarsese .canon) (F.eparse (s.filter (fun c => !C.isWs c))))
  | "emulti" =>
    let F ← efmtOf fmt
    let inputs ← runRd (rdManyStr []) payload
    pure (" | ".intercalate ((F.parseMulti inputs).map (showRes (showNarsese .canon))))
  | "etruth" =>
    let F ← efmtOf fmt
    let s ← runRd rdStr payload
    pure (showRes (showTruth .canon) (F.parseTruthDoor s))
  | "emid" =>
    let F ← efmtOf fmt
    let s ← runRd rdStr payload
    let o : Option String → String := fun x => x.getD "-"
    pure (showRes (fun (m : Mid) =>
      s!"{o (m.budget.map (showBudget .canon))} {o (m.term.map (showTerm .canon))} {o (m.punct.map showPunct)} {o (m.stamp.map showStamp)} {o (m.truth.map (showTruth .canon))} hs={bit m.hasSentence} ht={bit m.hasTask} ts={bit m.hasSentence} tt={bit m.hasTask}")
      (F.parseMidDoor s))
  | "ebudget" =>
    let F ← efmtOf fmt
    let s ← runRd rdStr payload
    pure (showRes (showBudget .canon) (F.parseBudgetDoor s))
  | "estamp" =>
    let F ← efmtOf fmt
    let s ← runRd rdStr payload
    pure (showRes showStamp (F.parseStampDoor s))
  | "epunct" =>
    let F ← efmtOf fmt
    let s ← runRd rdStr payload
    pure (showRes showPunct (F.parsePunctDoor s))
  | "lfmt" =>
    let L ← lfmtOf fmt
    let v ← runRd rdLNarsese payload
    pure s!"s {hs (L.fmtNarsese v)}"
  | "lparse" =>
    let L ← lfmtOf fmt
    let s ← runRd rdStr payload
    pure (showRes showLNarsese (L.lparse s))
  | "lparseterm" =>
    let L ← lfmtOf fmt
    let s ← runRd rdStr payload
    pure (showRes showLTerm (L.lparseTerm s))
  | "lfold" =>
    let F ← efmtOf fmt
    let L ← lfmtOf fmt
    let s ← runRd rdStr payload
    pure (showRes (showNarsese .canon) ((L.lparse s).bind F.foldNarsese))
  | "fold" =>
    let F ← efmtOf fmt
    let v ← runRd rdLNarsese payload
    pure (showRes (showNarsese .canon) (F.foldNarsese v))
  | "eq" =>
    let (a, b) ← runRd (do let a ← rdTerm; let b ← rdTerm; pure (a, b)) payload
    pure s!"b {bit (sem a b)}"
  | "hasheq" =>
    let (a, b) ← runRd (do let a ← rdTerm; let b ← rdTerm; pure (a, b)) payload
    pure s!"b {bit (decide (feedBytes (feed driverH0 a) = feedBytes (feed driverH0 b)))}"
  | "typst" =>
    let v ← runRd rdNarsese payload
    pure (typstOut v)
  | "typstparts" =>
    let v ← runRd rdNarsese payload
    pure (typstPartsOut v)
  | "api" =>
    let t ← runRd rdTerm payload
    pure (apiOut t)
  | "lapi" =>
    let t ← runRd rdLTerm payload
    pure (lapiOut t)
  | "setname" =>
    let (t, n) ← runRd (do let t ← rdTerm; let n ← rdStr; pure (t, n)) payload
    let (r, t') := t.setAtomName n
    let name := match t'.atomName with
      | some n => s!"some {hs n}"
      | none => "none"
    pure s!"{if r.isOk then "ok" else "err"} {showTerm .canon t'} name={name}"
  | "push" =>
    let ts ← runRd (rdManyTerm []) payload
    match ts with
    | [] => throw "push: no term"
    | t :: cs =>
      let (r, t') := t.pushComponents cs
      pure s!"{if r.isOk then "ok" else "err"} {showTerm .canon t'}"
  | "tctor" =>
    let xs ← runRd (rdManyNum []) payload
    pure (tctorOut xs)
  | "bctor" =>
    let xs ← runRd (rdManyNum []) payload
    pure (bctorOut xs)
  | "evn" =>
    let x ← runRd rdNum payload
    pure (evnOut x)
  | "cast" =>
    let v ← runRd rdNarsese payload
    pure (castOut v)
  | "lcast" =>
    let v ← runRd rdLNarsese payload
    pure (lcastOut v)
  | "peg" =>
    -- the published README grammar as reference: kind and tree it derives for the text
    let s ← runRd rdStr payload
    pure (match Peg.referenceS Gen.readmeGrammar s with
      | some v => s!"ok {showLNarsese v}"
      | none => "err")
  | "pegen" =>
    -- the grammar block of README.en.md (the same grammar, published in English) as reference
    let s ← runRd rdStr payload
    pure (match Peg.referenceS Gen.readmeGrammarEn s with
      | some v => s!"ok {showLNarsese v}"
      | none => "err")
  | "c01hyp" =>
    -- model-only: do the hypotheses of the C01 round-trip theorem (`Props/C01c.lean`) hold for this value?
    let F ← efmtOf fmt
    let v ← runRd rdNarsese payload
    pure s!"h {bit (wfN F v)} {bit (topN F v)} ok {showNarsese .canon v}"
  | "c02hyp" =>
    -- model-only: do the hypotheses of the C02 round-trip theorem (`Props/C02b.lean`) hold for this value?
    let L ← lfmtOf fmt
    let v ← runRd rdLNarsese payload
    pure s!"h {bit (wfLNB L v)} {bit (wsFreeN L v)} ok {showLNarsese v}"
  | "c11hyp" =>
    -- model-only: the hypotheses of `ascii_conforms_wf` (`Props/C11c.lean`) for a lexical value
    let L ← lfmtOf fmt
    let v ← runRd rdLNarsese payload
    pure s!"h {bit (wfLNB L v && wsFreeN L v)} {bit (Peg.gExtraB L v)} ok {showLNarsese v}"
  | "c11hypE" =>
    -- model-only: the hypothesis of `ascii_conforms_enum` for an enum value; the value the theorem predicts
    let F ← efmtOf fmt
    let L ← lfmtOf fmt
    let v ← runRd rdNarsese payload
    let x := toLexN F v
    pure s!"h {bit (Peg.gValOKB L x)} 1 ok {showLNarsese x}"
  | "c03hyp" =>
    -- model-only: do the hypotheses of `pipelines_agree_on_formatted` (`Props/C03b.lean`) hold for this value?
    let F ← efmtOf fmt
    let L ← lfmtOf fmt
    let v ← runRd rdNarsese payload
    let x := toLexN F v
    pure s!"h {bit (wfN F v && topN F v)} {bit (wfLNB L x && wsFreeN L x)} ok {showNarsese .canon v}"
  | "spellA" | "spellB" | "spellC" | "spellD" =>
    -- model-only: an instance of the master theorem (`Props/C09b.lean`): a spelling of the value
    -- (A: no spaces; B: pseudo-random spaces; C: spaces + derived copulas; D: derived copulas, no spaces),
    -- whether all decidable hypotheses hold for it, its text, and the value it must parse to
    let F ← efmtOf fmt
    let L ← lfmtOf fmt
    let v ← runRd rdNarsese payload
    let k := payload.length
    let σ : Nat → Nat := match op with
      | "spellA" | "spellD" => fun _ => 0
      | _ => fun i => (i * 7 + k + i / 5) % 3
    let sugar := op == "spellC" || op == "spellD"
    let sv := spell F σ sugar v
    pure s!"h {bit (spellOK F L sv v)} {hs (svalTxt F sv)} ok {showNarsese .canon v}"
  | "c16hyp" =>
    -- model-only: is the value well-formed for the Typst injectivity theorem (`Props/C16b.lean`)?
    let v ← runRd rdNarsese payload
    pure s!"h {bit (wfTyN Gen.typstC v)} 1 s {hs (typstN Gen.typstC v)}"
  | "numok" =>
    -- is this (bits, text) pair what the model requires of a printed number?
    let x ← runRd rdNum payload
    pure s!"b {bit x.ok}"
  | _ => throw s!"unknown op {op}"

partial def loop (h : IO.FS.Stream) (out : IO.FS.Stream) : IO Unit := do
  let line ← h.getLine
  if line.isEmpty then return ()
  let line := String.ofList (line.toList.reverse.dropWhile (fun c => c == '\n' || c == '\r')).reverse
  if line.isEmpty || line.startsWith "#" || line.startsWith "!" then
    loop h out
  else
    let cols := line.splitOn "\t"
    match cols with
    | op :: fmt :: payload :: _ =>
      match exec op fmt payload with
      | .ok s => out.putStrLn s
      | .error e => out.putStrLn s!"bad-op {e}"
    | _ => out.putStrLn "bad-line"
    -- one answer per request, visible at once (the differential fuzzer talks to the driver interactively)
    out.flush
    loop h out

end Narsese.Driver

def main : IO Unit := do
  let stdin ← IO.getStdin
  let stdout ← IO.getStdout
  Narsese.Driver.loop stdin stdout
