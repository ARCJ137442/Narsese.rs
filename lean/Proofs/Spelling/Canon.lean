/-
  The formatter's output is one particular spelling (`canonS`: no spaces except `spN F` of them behind every
  separator and around every copula), so `parse_stxt` reads it back: the term-level round trip.
-/
import Proofs.Spelling.Term
set_option autoImplicit false

namespace Narsese
open EFormat

/-- component texts: the first one bare when `first`, every other preceded by `separator ++ space` -/
def compsTxt (F : EFormat) : Bool → Terms → Str
  | _, .nil => []
  | true, .cons t ts => F.fmtTerm t ++ compsTxt F false ts
  | false, .cons t ts => F.separator ++ F.spaceTerms ++ F.fmtTerm t ++ compsTxt F false ts

theorem compsTxt_false (F : EFormat) : ∀ ts : Terms, compsTxt F false ts = tailTxt F (F.fmtTerms ts)
  | .nil => rfl
  | .cons t ts => by simp [compsTxt, fmtTerms, tailTxt, compsTxt_false F ts]

/-- the number of spaces the formatter writes behind a separator and around a copula -/
def spN (F : EFormat) : Nat := if F.spaceTerms = [] then 0 else 1

mutual
  /-- the formatter's token sequence, `n` spaces behind every separator and around every copula, none elsewhere
  (`3` is the position of the negation entry in `connecters`) -/
  def canonS (n : Nat) : Term → STerm
    | .atom k x => .atom (.atom k x)
    | .placeholder => .atom .placeholder
    | .interval x => .atom (.interval x)
    | .setlike k ts =>
      match k, ts with
      | .extSet, .cons t ts' => .set true 0 (canonS n t) (canonItems n ts') 0
      | .intSet, .cons t ts' => .set false 0 (canonS n t) (canonItems n ts') 0
      | k, ts => .compound 0 (connIdxSet k) (canonItems n ts) 0
    | .seqlike k ts => .compound 0 (connIdxSeq k) (canonItems n ts) 0
    | .image k i ts => .compound 0 (connIdxImg k) (canonImage n i 0 ts) 0
    | .neg t => .compound 0 3 (.cons 0 n (canonS n t) .nil) 0
    | .bin k a b =>
      if k.isStatement then .stmt 0 (canonS n a) n (copIdx k) n (canonS n b) 0
      else .compound 0 (copIdx k) (.cons 0 n (canonS n a) (.cons 0 n (canonS n b) .nil)) 0
  def canonItems (n : Nat) : Terms → SItems
    | .nil => .nil
    | .cons t ts => .cons 0 n (canonS n t) (canonItems n ts)
  def canonImage (n : Nat) (idx : Nat) : Nat → Terms → SItems
    | now, .nil => if now = idx then .cons 0 n (.atom .placeholder) .nil else .nil
    | now, .cons t ts =>
      if now = idx then .cons 0 n (.atom .placeholder) (.cons 0 n (canonS n t) (canonImage n idx (now + 2) ts))
      else .cons 0 n (canonS n t) (canonImage n idx (now + 1) ts)
end

/-- `st` spells `t` with text `s`, and no connecter of it is followed by a space -/
structure Spells (F : EFormat) (st : STerm) (s : Str) (t : Term) : Prop where intro ::
  txt : stxt F st = s
  denotes : den F st = some t
  wf : wfS F st = true
  noSp : connSp st = false

/-- the same for a component list with the texts `cs`; `noSp` also says that no space precedes the first separator -/
structure SpellsItems (F : EFormat) (items : SItems) (cs : List Str) (l : List Term) : Prop where intro ::
  txt : itemsTxt F items = tailTxt F cs
  denotes : dens F items = some l
  wf : wfSs F items = true
  noSp : connSp (.compound 0 0 items 0) = false
  len : cs.length = l.length

/-! the index functions point at the keywords the formatter writes -/

theorem connAt_set (F : EFormat) (k : SetK) (h : F.setBrackets k = none) :
    F.connecters[connIdxSet k]? = some (F.setConnecter k, .set k) := by
  cases k <;> first | rfl | simp [setBrackets] at h
theorem connAt_seq (F : EFormat) (k : SeqK) : F.connecters[connIdxSeq k]? = some (F.seqConnecter k, .seq k) := by
  cases k <;> rfl
theorem connAt_img (F : EFormat) (k : ImgK) : F.connecters[connIdxImg k]? = some (F.imgConnecter k, .img k) := by
  cases k <;> rfl
theorem connAt_diff (F : EFormat) (k : BinK) (h : k.isStatement = false) :
    F.connecters[copIdx k]? = some (F.binKeyword k, .diff k) := by
  cases k <;> first | rfl | simp [BinK.isStatement] at h
theorem copAt_bin (F : EFormat) (k : BinK) (h : k.isStatement = true) :
    F.copulaTable[copIdx k]? = some (F.binKeyword k, .plain k) := by
  cases k <;> first | rfl | simp [BinK.isStatement] at h

section
variable {F : EFormat} (hF : FormatOK F)
include hF

theorem FormatOK.spaceTerms_ws : F.spaceTerms = ws F (spN F) := by
  unfold spN
  rcases hF.sp with h | h
  · split
    · next h0 => simp [h0, ws]
    · simp [h, ws]
  · simp [h, ws]

omit hF in
theorem SpellsItems.nil : SpellsItems F .nil [] [] := ⟨rfl, rfl, rfl, rfl, rfl⟩

theorem SpellsItems.cons {st : STerm} {s : Str} {t : Term} {items : SItems} {ss : List Str} {l : List Term}
    (h : Spells F st s t) (hs : SpellsItems F items ss l) :
    SpellsItems F (.cons 0 (spN F) st items) (s :: ss) (t :: l) := by
  obtain ⟨h1, h2, h3, h4⟩ := h
  obtain ⟨g1, g2, g3, g4, g5⟩ := hs
  simp only [connSp, Bool.or_eq_false_iff] at g4
  refine ⟨?_, ?_, ?_, ?_, ?_⟩
  · simp only [itemsTxt, tailTxt, h1, g1, ← hF.spaceTerms_ws, ws, List.nil_append, List.append_assoc]
  · simp only [dens, h2, g2]
  · simp only [wfSs, h3, g3, Bool.and_self]
  · simp only [connSp, connSps, h4, g4.2, Bool.or_self]
  · simp only [List.length_cons, g5]

omit hF in
theorem Spells.atom (t : Term) (ha : isAtomic t = true) (ht : wfT F t = true) : Spells F (.atom t) (F.fmtTerm t) t :=
  ⟨rfl, rfl, by simp [wfS, ha, ht], rfl⟩

omit hF in
theorem Spells.set (ext : Bool) {st : STerm} {s : Str} {t : Term} {items : SItems} {ss : List Str} {l : List Term}
    (h : Spells F st s t) (hs : SpellsItems F items ss l) (hnd : nodupSem (t :: l) = true) :
    Spells F (.set ext 0 st items 0) (F.tplSet (F.setL ext) (F.setR ext) (s :: ss))
      (.setlike (setK ext) (Terms.ofList (t :: l))) := by
  obtain ⟨h1, h2, h3, h4⟩ := h
  obtain ⟨g1, g2, g3, g4, _⟩ := hs
  simp only [connSp, Bool.or_eq_false_iff] at g4
  refine ⟨?_, ?_, ?_, ?_⟩
  · simp only [stxt, tplSet, joinComponents_cons, h1, g1, ws, List.nil_append, List.append_assoc]
  · simp only [den, h2, g2, mkSetSem_nodup_id _ hnd]
  · simp only [wfS, h3, g3, Bool.and_self]
  · simp only [connSp, h4, g4.2, Bool.or_self]

omit hF in
theorem tplCompound_eq (conn : Str) (cs : List Str) (h : cs ≠ []) :
    F.tplCompound conn cs = F.compL ++ (conn ++ (tailTxt F cs ++ F.compR)) := by
  cases cs with
  | nil => exact absurd rfl h
  | cons s ss => simp only [tplCompound, joinComponents_cons, tailTxt, List.append_assoc]

omit hF in
theorem Spells.compound (j : Nat) (conn : Str) (ck : ConnK) (he : F.connecters[j]? = some (conn, ck))
    (hop : ck ≠ .operatorUnsupported) {items : SItems} {cs : List Str} {l : List Term} {out : Term}
    (hs : SpellsItems F items cs l) (hl : l ≠ []) (hfin : finishT ck l = some out) :
    Spells F (.compound 0 j items 0) (F.tplCompound conn cs) out := by
  obtain ⟨g1, g2, g3, g4, g5⟩ := hs
  have hcs : cs ≠ [] := fun h0 => hl (List.length_eq_zero_iff.mp (by rw [← g5, h0]; rfl))
  have hc : F.connAt j = (conn, ck) := by simp [connAt, he]
  have hne : items ≠ .nil := by
    intro h0
    rw [h0, dens, Option.some.injEq] at g2
    exact hl g2.symm
  refine ⟨?_, ?_, ?_, ?_⟩
  · simp only [stxt, tplCompound_eq conn cs hcs, hc, g1, ws, List.nil_append]
  · simp only [den, g2, hc, hfin]
  · have hj : j < F.connecters.length := (List.getElem?_eq_some_iff.mp he).1
    cases items with
    | nil => exact absurd rfl hne
    | cons b a t ts => simp [wfS, hj, hc, hop, g3]
  · simpa [connSp] using g4

theorem Spells.stmt (j : Nat) (cop : Str) (ck : CopK) (he : F.copulaTable[j]? = some (cop, ck))
    {sa sb : STerm} {ta tb : Str} {a b : Term} (ha : Spells F sa ta a) (hb : Spells F sb tb b) :
    Spells F (.stmt 0 sa (spN F) j (spN F) sb 0) (F.tplStatement ta cop tb) (ck.build a b) := by
  obtain ⟨h1, h2, h3, h4⟩ := ha
  obtain ⟨g1, g2, g3, g4⟩ := hb
  have hc : F.copAt j = (cop, ck) := by simp [copAt, he]
  refine ⟨?_, ?_, ?_, ?_⟩
  · simp only [stxt, tplStatement, hc, h1, g1, ← hF.spaceTerms_ws, ws, List.nil_append, List.append_assoc]
  · simp only [den, h2, g2, hc]
  · simp [wfS, (List.getElem?_eq_some_iff.mp he).1, h3, g3]
  · simp only [connSp, h4, g4, Bool.or_self]

mutual
  theorem canonS_spells : ∀ (t : Term), wfT F t = true → Spells F (canonS (spN F) t) (F.fmtTerm t) t
    | .atom k x, ht => Spells.atom _ rfl ht
    | .placeholder, ht => Spells.atom _ rfl ht
    | .interval x, ht => Spells.atom _ rfl ht
    | .setlike k .nil, ht => by simp [wfT, Terms.isEmpty] at ht
    | .setlike k (.cons t ts), ht => by
      simp only [wfT, wfTs, Terms.toList, Bool.and_eq_true] at ht
      obtain ⟨⟨_, hwt, hwts⟩, hnd⟩ := ht
      have h1 := canonS_spells t hwt
      have h2 := canonItems_spells ts hwts
      have viaConn : F.setBrackets k = none → Spells F (.compound 0 (connIdxSet k) (canonItems (spN F) (.cons t ts)) 0)
          (F.tplCompound (F.setConnecter k) (F.fmtTerms (.cons t ts))) (.setlike k (.cons t ts)) := fun hk =>
        Spells.compound _ _ _ (connAt_set F k hk) (by simp) (SpellsItems.cons hF h1 h2) (by simp)
          (by simp [finishT, mkSetSem_nodup_id _ hnd, Terms.ofList, Terms.ofList_toList])
      cases k with
      | extSet =>
        simpa [canonS, fmtTerm, setBrackets, fmtTerms, setL, setR, setK, Terms.ofList, Terms.ofList_toList]
          using Spells.set true h1 h2 hnd
      | intSet =>
        simpa [canonS, fmtTerm, setBrackets, fmtTerms, setL, setR, setK, Terms.ofList, Terms.ofList_toList]
          using Spells.set false h1 h2 hnd
      | extInt | intInt | conj | disj | parConj => exact viaConn rfl
    | .seqlike k ts, ht => by
      simp only [wfT, Bool.and_eq_true, Bool.not_eq_true'] at ht
      have hl : ts.toList ≠ [] := by cases ts <;> simp_all [Terms.toList, Terms.isEmpty]
      exact Spells.compound _ _ _ (connAt_seq F k) (by simp) (canonItems_spells ts ht.2) hl
        (by simp [finishT, Terms.ofList_toList])
    | .image k i ts, ht => by
      simp only [wfT, Bool.and_eq_true, decide_eq_true_eq] at ht
      obtain ⟨⟨hi, hwf⟩, hnp⟩ := ht
      have hex := extract_imageIter i ts hi hnp
      have hl : imageIter i 0 ts.toList ≠ [] := fun h0 => by simp [h0, extractPlaceholder] at hex
      exact Spells.compound _ _ _ (connAt_img F k) (by simp) (canonImage_spells ts hwf i 0) hl
        (by simp [finishT, hex, Terms.ofList_toList])
    | .neg t, ht => by
      simp only [wfT] at ht
      exact Spells.compound 3 F.cNeg .neg rfl (by simp) (SpellsItems.cons hF (canonS_spells t ht) .nil) (by simp)
        (by simp [finishT])
    | .bin k a b, ht => by
      simp only [wfT, Bool.and_eq_true] at ht
      have ha := canonS_spells a ht.1
      have hb := canonS_spells b ht.2
      cases hk : k.isStatement with
      | true =>
        simp only [canonS, fmtTerm, hk, if_true]
        exact Spells.stmt hF _ _ _ (copAt_bin F k hk) ha hb
      | false =>
        simp only [canonS, fmtTerm, hk, Bool.false_eq_true, if_false]
        exact Spells.compound _ _ _ (connAt_diff F k hk) (by simp) (SpellsItems.cons hF ha (SpellsItems.cons hF hb .nil))
          (by simp) (by simp [finishT])

  theorem canonItems_spells : ∀ (ts : Terms), wfTs F ts = true →
      SpellsItems F (canonItems (spN F) ts) (F.fmtTerms ts) ts.toList
    | .nil, _ => .nil
    | .cons t ts, hwf => by
      simp only [wfTs, Bool.and_eq_true] at hwf
      exact SpellsItems.cons hF (canonS_spells t hwf.1) (canonItems_spells ts hwf.2)

  theorem canonImage_spells : ∀ (ts : Terms), wfTs F ts = true → ∀ (idx now : Nat),
      SpellsItems F (canonImage (spN F) idx now ts) (F.fmtImage idx now ts) (imageIter idx now ts.toList)
    | .nil, _, idx, now => by
      simp only [canonImage, fmtImage, Terms.toList, imageIter]
      split
      · exact SpellsItems.cons hF (Spells.atom .placeholder rfl rfl) .nil
      · exact .nil
    | .cons t ts, hwf, idx, now => by
      simp only [wfTs, Bool.and_eq_true] at hwf
      have ht := canonS_spells t hwf.1
      simp only [canonImage, fmtImage, Terms.toList, imageIter]
      split
      · exact SpellsItems.cons hF (Spells.atom .placeholder rfl rfl)
          (SpellsItems.cons hF ht (canonImage_spells ts hwf.2 idx (now + 2)))
      · exact SpellsItems.cons hF ht (canonImage_spells ts hwf.2 idx (now + 1))
end

variable (len : Nat)

theorem Spells.parse {st : STerm} {s : Str} {t : Term} (h : Spells F st s t) (fuel : Nat) (rest : Str)
    (hst : Stop F rest) : R (F.parseTerm fuel (mk len (s ++ rest))) (t, mk len rest) := by
  obtain ⟨rfl, hd, hw, hc⟩ := h
  exact parse_stxt hF len st (by simp [hc]) hw t hd fuel rest hst

theorem SpellsItems.parse {items : SItems} {cs : List Str} {l : List Term} (h : SpellsItems F items cs l) {rb : Str}
    (hrb : rb ∈ closers F) (rest : Str) (acc : List Term) (fuel : Nat) :
    R (F.parseTerms fuel rb (mk len (tailTxt F cs ++ (rb ++ rest))) acc) (acc ++ l, mk len (rb ++ rest)) := by
  obtain ⟨he, hd, hw, hc, _⟩ := h
  rw [← he]
  simp only [connSp, Bool.or_eq_false_iff] at hc
  exact parse_itemsTxt hF len items (by simp [hc.2]) hw l hd 0 rb hrb rest acc fuel

end

theorem rt_comps {F : EFormat} (hF : FormatOK F) (len : Nat) : ∀ (ts : Terms), wfTs F ts = true →
    ∀ (first : Bool) (fuel : Nat) (rb rest : Str) (acc : List Term), rb ∈ closers F →
    R (F.parseTerms fuel rb (mk len (compsTxt F first ts ++ rb ++ rest)) acc)
      (acc ++ ts.toList, mk len (rb ++ rest))
  | ts, hwf, false, fuel, rb, rest, acc, hrb => by
    rw [compsTxt_false, List.append_assoc]
    exact (canonItems_spells hF ts hwf).parse hF len hrb rest acc fuel
  | .nil, _, true, fuel, rb, rest, acc, hrb => by
    simpa [compsTxt, Terms.toList] using loop_end hF len hrb fuel rest acc
  | .cons t ts, hwf, true, fuel, rb, rest, acc, hrb => by
    simp only [wfTs, Bool.and_eq_true] at hwf
    have hs := canonItems_spells hF ts hwf.2
    simp only [compsTxt, compsTxt_false, Terms.toList, List.append_assoc]
    have ht := canonS_spells hF t hwf.1
    refine loop_elem hF len hrb (F.fmtTerm t) _ t acc _ (ht.txt ▸ stxt_starts hF _ ht.wf _)
      (fun f => ht.parse hF len f _ ?_) (fun f => ?_) fuel
    · rw [← hs.txt]; simpa [ws] using items_stop hF (canonItems (spN F) ts) 0 hrb rest
    · simpa [List.append_assoc] using hs.parse hF len hrb rest (acc ++ [t]) f

/-- the component loop on the components of an image, placeholder re-inserted at its index -/
theorem rt_image {F : EFormat} (hF : FormatOK F) (len : Nat) : ∀ (ts : Terms), wfTs F ts = true →
    ∀ (idx now fuel : Nat) (rest : Str) (acc : List Term),
    R (F.parseTerms fuel F.compR (mk len (tailTxt F (F.fmtImage idx now ts) ++ (F.compR ++ rest))) acc)
      (acc ++ imageIter idx now ts.toList, mk len (F.compR ++ rest)) :=
  fun ts hwf idx now fuel rest acc =>
    (canonImage_spells hF ts hwf idx now).parse hF len (by simp [closers]) rest acc fuel

theorem parseTerm_fmtTerm {F : EFormat} (hF : FormatOK F) (len : Nat) (t : Term) (ht : wfT F t = true)
    (rest : Str) (hst : Stop F rest) (fuel : Nat) (hfuel : 3 * (F.fmtTerm t ++ rest).length + 2 ≤ fuel) :
    F.parseTerm fuel (mk len (F.fmtTerm t ++ rest)) = .ok (t, mk len rest) := by
  obtain ⟨he, hd, hw, hc⟩ := canonS_spells hF t ht
  rw [← he] at hfuel ⊢
  exact parseTerm_spelling hF len _ (by simp [hc]) hw t hd rest hst fuel hfuel

end Narsese
