/-
  The decidable side condition on a format under which terms read back (`FormatOK`), well-formed terms (`wfT`),
  what may follow a term (`Stop`), the name scanner on a well-formed name, and the placeholder of an image found where
  `ImageIterator` put it (`extract_imageIter`).
-/
import Proofs.CursorLemmas
import Proofs.EParseTotal
import Proofs.SetBuild
import Proofs.NumLemmas
import NarseseModel.EFormatter
import Props.C10a
import Props.C14
set_option autoImplicit false

namespace Narsese
open EFormat

def openers (F : EFormat) : List Str := [F.extSetL, F.intSetL, F.compL, F.stmtL]
def closers (F : EFormat) : List Str := [F.extSetR, F.intSetR, F.compR, F.stmtR]
/-- the six non-empty atom prefixes, in the order `parse_atom` tries them -/
def prefixes6 (F : EFormat) : List Str :=
  [F.prePlaceholder, F.preIVar, F.preDVar, F.preQVar, F.preInterval, F.preOperator]
/-- keywords a term's text can begin with -/
def starters (F : EFormat) : List Str := openers F ++ prefixes6 F

/-- a keyword that terminates a term: non-empty, does not begin with a name char, and cannot be
mistaken for the beginning of a term -/
def terminatorOK (F : EFormat) (x : Str) : Bool :=
  !x.isEmpty && (x.head?.all (fun c => !F.isName c)) && (starters F).all (fun k => incompat x k)

/-- The decidable side condition under which the formatter's output is read back unambiguously. -/
def formatOKB (F : EFormat) : Bool :=
  saneAllB F &&
  (F.spaceTerms == F.spaceParse || F.spaceTerms == []) &&
  F.preWord.isEmpty &&
  -- dispatch between the four bracket openers
  pairwiseB incompat (openers F) &&
  (openers F).all (fun o => o.head?.all (fun c => !F.isName c) && (prefixes6 F).all (fun p => incompat o p)) &&
  (prefixes6 F).all (fun p => !p.isEmpty) && pairwiseB incompat (prefixes6 F) &&
  ([F.spaceParse, F.separator] ++ closers F).all (terminatorOK F) &&
  (closers F).all (fun r => incompat F.spaceParse r && incompat F.separator r) && incompat F.spaceParse F.separator &&
  pairwiseB incompat (F.copulaTable.map (·.1)) &&
  (F.copulaTable.map (·.1)).all (fun c => !c.isEmpty && incompat F.spaceParse c &&
      c.head?.all (fun x => !digitChars.contains x)) &&
  F.copulas == F.copulaTable.map (·.1) &&
  digitChars.all F.isName &&
  -- connecters: the intended entry is the first match on `connecter ++ separator`
  (F.connecters.map (·.1)).all (fun c => !c.isEmpty && incompat F.spaceParse c) &&
  (List.range F.connecters.length).all (fun j =>
    (List.range j).all (fun i =>
      match F.connecters[i]?, F.connecters[j]? with
      | some e, some c => !compat e.1 (c.1 ++ F.separator)
      | _, _ => true))

structure FormatOK (F : EFormat) : Prop where
  ok : formatOKB F = true

/-- an atom name that reads back as itself: non-empty, name characters only, contains no copula and no
suffix of it is the beginning of one, and it neither starts with an atom prefix nor is the beginning of one -/
def nameOK (F : EFormat) (n : Str) : Bool :=
  !n.isEmpty && n.all F.isName &&
  (sufs n).all (fun s => F.copulas.all (fun c => !compat c s)) &&
  (prefixes6 F).all (fun p => !compat p n)

mutual
  def wfT (F : EFormat) : Term → Bool
    | .atom _ n => nameOK F n
    | .placeholder => true
    | .interval n => decide (n < 2 ^ 64)
    | .setlike _ ts => !ts.isEmpty && wfTs F ts && nodupSem ts.toList
    | .seqlike _ ts => !ts.isEmpty && wfTs F ts
    | .image _ i ts => decide (i ≤ ts.length) && wfTs F ts && noPh ts
    | .neg t => wfT F t
    | .bin _ a b => wfT F a && wfT F b
  def wfTs (F : EFormat) : Terms → Bool
    | .nil => true
    | .cons t ts => wfT F t && wfTs F ts
  /-- the components of an image are placeholder-free (the placeholder is the index) -/
  def noPh : Terms → Bool
    | .nil => true
    | .cons t ts => (match t with | .placeholder => false | _ => true) && noPh ts
end

/-- what may follow a term: the name scanner consumes nothing from it -/
def Stop (F : EFormat) (rest : Str) : Prop := F.scanName rest = ([], rest)

theorem stop_nil (F : EFormat) : Stop F [] := rfl

theorem stop_of_head (F : EFormat) (c : Char) (cs : Str) (h : F.isName c = false) : Stop F (c :: cs) := by
  unfold Stop scanName
  split
  · rfl
  · simp [h]

theorem stop_of_copula (F : EFormat) (k r : Str) (hk : k ∈ F.copulas) : Stop F (k ++ r) := by
  cases hkr : k ++ r with
  | nil => exact stop_nil F
  | cons c cs =>
    unfold Stop scanName
    have : F.copulaAt (c :: cs) = true := by
      rw [← hkr, copulaAt, List.any_eq_true]
      exact ⟨k, hk, isPre_append k r⟩
    simp [this]

theorem stop_of_kw (F : EFormat) (k r : Str) (hne : k ≠ []) (hh : k.head?.all (fun c => !F.isName c) = true) :
    Stop F (k ++ r) := by
  cases k with
  | nil => exact absurd rfl hne
  | cons c cs =>
    apply stop_of_head
    simpa using hh

theorem not_isPre_name {F : EFormat} {k : Str} (hne : k ≠ []) (hh : k.head?.all (fun c => !F.isName c) = true)
    {c : Char} (hc : F.isName c = true) (cs : Str) : isPre k (c :: cs) = false :=
  not_isPre_of_head hne (head_all_not.mp hh) hc cs

theorem copulaAt_false {F : EFormat} {s r : Str} (h : ∀ c ∈ F.copulas, compat c s = false) :
    F.copulaAt (s ++ r) = false := by
  unfold copulaAt
  rw [List.any_eq_false]
  intro c hc
  simp [not_isPre_of_not_compat (h c hc) r]

theorem scanName_app (F : EFormat) (n rest : Str)
    (hch : ∀ c ∈ n, F.isName c = true)
    (hnc : ∀ s ∈ sufs n, ∀ c ∈ F.copulas, compat c s = false)
    (hst : Stop F rest) : F.scanName (n ++ rest) = (n, rest) := by
  induction n with
  | nil => exact hst
  | cons c n ih =>
    have h1 : F.copulaAt ((c :: n) ++ rest) = false := copulaAt_false (hnc (c :: n) (by simp [sufs]))
    have h2 : F.isName c = true := hch c (by simp)
    have ih' := ih (fun d hd => hch d (by simp [hd])) (fun s hs => hnc s (by simp [sufs, hs]))
    simp only [List.cons_append] at h1 ⊢
    simp [scanName, h1, h2, ih']

theorem nameOK_scan (F : EFormat) (n rest : Str) (h : nameOK F n = true) (hst : Stop F rest) :
    F.scanName (n ++ rest) = (n, rest) := by
  simp only [nameOK, Bool.and_eq_true, List.all_eq_true, Bool.not_eq_true'] at h
  exact scanName_app F n rest h.1.1.2 (fun s hs c hc => h.1.2 s hs c hc) hst

theorem noPh_toList : ∀ ts : Terms, noPh ts = true → Props.C10.noPlaceholder ts.toList
  | .nil, _ => by intro t ht; simp [Terms.toList] at ht
  | .cons t ts, h => by
    simp only [noPh, Bool.and_eq_true] at h
    intro x hx
    simp only [Terms.toList, List.mem_cons] at hx
    rcases hx with rfl | hx
    · intro he; subst he; simp at h
    · exact noPh_toList ts h.2 x hx

theorem imageIter_toList (i : Nat) (ts : Terms) (hi : i ≤ ts.length) :
    imageIter i 0 ts.toList = ts.toList.take i ++ .placeholder :: ts.toList.drop i := by
  rw [Props.C14.imageIterator_eq_insert i ts.toList (by rw [Terms.length_toList]; exact hi)]; simp

/-- the parser finds the placeholder where `ImageIterator` put it -/
theorem extract_imageIter (i : Nat) (ts : Terms) (hi : i ≤ ts.length) (hnp : noPh ts = true) :
    extractPlaceholder (imageIter i 0 ts.toList) = some (i, ts.toList) := by
  have hil : i ≤ ts.toList.length := by rw [Terms.length_toList]; exact hi
  rw [imageIter_toList i ts hi,
    Props.C10.image_index_enum _ _ (fun x hx => noPh_toList ts hnp x (List.mem_of_mem_take hx))]
  simp [List.length_take, Nat.min_eq_left hil]

end Narsese
