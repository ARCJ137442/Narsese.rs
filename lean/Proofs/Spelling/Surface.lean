/-
  Surface syntax trees — the token structure of a Narsese term together with the
  number of spaces at every token boundary and the copula / connecter actually written (so the derived
  copulas are included) — their text, and what they denote.
-/
import Proofs.Spelling.Spaces
set_option autoImplicit false

namespace Narsese
open EFormat

mutual
  inductive STerm where
    /-- an atomic enum term, printed as the formatter prints it -/
    | atom (t : Term)
    /-- `l ␣ᵃ first items ␣ᶜ r` with the extension (`true`) or intension brackets -/
    | set (ext : Bool) (a : Nat) (first : STerm) (items : SItems) (c : Nat)
    /-- `( ␣ᵃ connecter items ␣ᶜ )`, connecter = entry `j` of the parser's connecter table -/
    | compound (a : Nat) (j : Nat) (items : SItems) (c : Nat)
    /-- `< ␣ᵃ s ␣ᵇ copula ␣ᶜ p ␣ᵈ >`, copula = entry `j` of the parser's copula table (derived ones included) -/
    | stmt (a : Nat) (s : STerm) (b : Nat) (j : Nat) (c : Nat) (p : STerm) (d : Nat)
  inductive SItems where
    | nil
    /-- `␣ᵇ separator ␣ᵃ t` -/
    | cons (b a : Nat) (t : STerm) (ts : SItems)
end

namespace EFormat

def connAt (F : EFormat) (j : Nat) : Str × ConnK := (F.connecters[j]?).getD ([], .operatorUnsupported)
def copAt (F : EFormat) (j : Nat) : Str × CopK := (F.copulaTable[j]?).getD ([], .plain .inh)
def setL (F : EFormat) (ext : Bool) : Str := if ext then F.extSetL else F.intSetL
def setR (F : EFormat) (ext : Bool) : Str := if ext then F.extSetR else F.intSetR
def setK (ext : Bool) : SetK := if ext then .extSet else .intSet

end EFormat

def connIdxSet : SetK → Nat
  | .conj => 1 | .disj => 2 | .parConj => 5 | .extInt => 6 | .intInt => 7 | _ => 0
def connIdxSeq : SeqK → Nat
  | .seqConj => 4 | .product => 10
def connIdxImg : ImgK → Nat
  | .ext => 11 | .int => 12
def copIdx : BinK → Nat
  | .inh => 0 | .sim => 1 | .impl => 2 | .equiv => 3 | .implPred => 7 | .implConc => 8 | .implRetro => 9
  | .equivPred => 10 | .equivConc => 11 | .extDiff => 8 | .intDiff => 9

mutual
  /-- the surface string -/
  def stxt (F : EFormat) : STerm → Str
    | .atom t => F.fmtTerm t
    | .set ext a first items c =>
      F.setL ext ++ (ws F a ++ (stxt F first ++ (itemsTxt F items ++ (ws F c ++ F.setR ext))))
    | .compound a j items c =>
      F.compL ++ (ws F a ++ ((F.connAt j).1 ++ (itemsTxt F items ++ (ws F c ++ F.compR))))
    | .stmt a s b j c p d =>
      F.stmtL ++ (ws F a ++ (stxt F s ++ (ws F b ++ ((F.copAt j).1 ++ (ws F c ++ (stxt F p ++ (ws F d ++ F.stmtR)))))))
  def itemsTxt (F : EFormat) : SItems → Str
    | .nil => []
    | .cons b a t ts => ws F b ++ (F.separator ++ (ws F a ++ (stxt F t ++ itemsTxt F ts)))
end

/-- what the kind-specific tail of `parse_compound` builds, when it builds something -/
def finishT (ck : ConnK) (ts : List Term) : Option Term :=
  match ck with
  | .neg =>
    match ts with
    | [t] => some (.neg t)
    | _ => none
  | .diff k =>
    match ts with
    | [a, b] => some (.bin k a b)
    | _ => none
  | .img k =>
    match extractPlaceholder ts with
    | some (i, ts') => some (.image k i (Terms.ofList ts'))
    | none => none
  | .seq k => some (.seqlike k (Terms.ofList ts))
  | .set k => some (.setlike k (Terms.ofList (mkSetSem ts)))
  | .operatorUnsupported => none

mutual
  /-- the denotation of a surface tree (what both pipelines must return) -/
  def den (F : EFormat) : STerm → Option Term
    | .atom t => some t
    | .set ext _ first items _ =>
      match den F first, dens F items with
      | some f, some l => some (.setlike (EFormat.setK ext) (Terms.ofList (mkSetSem (f :: l))))
      | _, _ => none
    | .compound _ j items _ =>
      match dens F items with
      | some l => finishT (F.connAt j).2 l
      | none => none
    | .stmt _ s _ j _ p _ =>
      match den F s, den F p with
      | some s', some p' => some ((F.copAt j).2.build s' p')
      | _, _ => none
  def dens (F : EFormat) : SItems → Option (List Term)
    | .nil => some []
    | .cons _ _ t ts =>
      match den F t, dens F ts with
      | some t', some l => some (t' :: l)
      | _, _ => none
end

mutual
  /-- well-formed surface trees -/
  def wfS (F : EFormat) : STerm → Bool
    | .atom t => isAtomic t && wfT F t
    | .set _ _ first items _ => wfS F first && wfSs F items
    | .compound _ j items _ =>
      decide (j < F.connecters.length) && !((F.connAt j).2 == .operatorUnsupported) &&
      !(match items with | .nil => true | _ => false) && wfSs F items
    | .stmt _ s _ j _ p _ => decide (j < F.copulaTable.length) && wfS F s && wfS F p
  def wfSs (F : EFormat) : SItems → Bool
    | .nil => true
    | .cons _ _ t ts => wfS F t && wfSs F ts
end

/-- decidable side condition for surface strings: a connecter followed by a SPACE is still the first match
of the ordered connecter table -/
def surfaceOKB (F : EFormat) : Bool :=
  (List.range F.connecters.length).all (fun j =>
    (List.range j).all (fun i =>
      match F.connecters[i]?, F.connecters[j]? with
      | some e, some c => !compat e.1 (c.1 ++ F.spaceParse)
      | _, _ => true))

structure SurfaceOK (F : EFormat) : Prop where
  base : FormatOK F
  conn_space : surfaceOKB F = true

end Narsese
