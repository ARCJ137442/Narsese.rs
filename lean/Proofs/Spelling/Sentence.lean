/-
  The items of a sentence line, read one at a time: signed integers and punctuation marks read back; which
  alternative of `consume_one` fires in front of a term and of a punctuation mark; `build_mid_result` one item at
  a time (`bm_step`), and the step from the fuel-relative statement to the entry point. Which values the formatter
  prints in a form that reads back (`wfStamp`, `wfTruth`, `wfBudget`, `wfSentence`, `wfTask`).
-/
import Proofs.Spelling.ItemsOK
set_option autoImplicit false

namespace Narsese
open EFormat

theorem spanSigned_app : ∀ (ds Z : Str), (∀ c ∈ ds, (isDigit c || c = '+' || c = '-') = true) →
    (∀ c ∈ Z.head?, (isDigit c || c = '+' || c = '-') = false) → spanSigned (ds ++ Z) = (ds, Z)
  | [], Z, _, hz => by
    cases Z with
    | nil => rfl
    | cons z zs =>
      have := hz z (by simp)
      simp only [List.nil_append, spanSigned, this, Bool.false_eq_true, if_false]
  | d :: ds, Z, hd, hz => by
    have h1 := hd d (by simp)
    have ih := spanSigned_app ds Z (fun c hc => hd c (by simp [hc])) hz
    simp only [List.cons_append, spanSigned, h1, if_true, ih]

theorem showInt_chars (t : Int) :
    showInt t ≠ [] ∧ ∀ c ∈ showInt t, (isDigit c || c = '+' || c = '-') = true := by
  cases t with
  | ofNat n =>
    obtain ⟨_, _, c, r, h, _⟩ := showNat_spec n
    refine ⟨by simp [showInt, h], ?_⟩
    intro c hc
    obtain ⟨d, hd, rfl⟩ := showNat_chars n c (by simpa [showInt] using hc)
    simp [isDigit_digitChar d hd]
  | negSucc n =>
    refine ⟨by simp [showInt], ?_⟩
    intro c hc
    simp only [showInt, List.mem_cons] at hc
    rcases hc with rfl | hc
    · simp
    · obtain ⟨d, hd, rfl⟩ := showNat_chars (n + 1) c hc
      simp [isDigit_digitChar d hd]

theorem headNotIn_sign {k : Str} (h : headNotIn k signChars = true) :
    ∀ c ∈ k.head?, (isDigit c || c = '+' || c = '-') = false :=
  headNotIn_test h fun c hc => by
    simp only [Bool.or_eq_true, decide_eq_true_eq] at hc
    simp only [signChars, List.mem_append, List.mem_cons, List.not_mem_nil, or_false]
    exact hc.elim (.imp (isDigit_digitChars c) .inl) (.inr ∘ .inr)

theorem headNotIn_app {k : Str} (cs : Str) (hk : k ≠ []) (h : headNotIn k cs = true) (Y : Str) :
    headNotIn (k ++ Y) cs = true := by
  cases k with
  | nil => exact absurd rfl hk
  | cons z zs => simpa [headNotIn] using h

theorem parseIsizeAt_showInt (len : Nat) (t : Int) (h1 : -(2 ^ 63 : Int) ≤ t) (h2 : t < 2 ^ 63) (Z : Str)
    (hZ : ∀ c ∈ Z.head?, (isDigit c || c = '+' || c = '-') = false) :
    parseIsizeAt (mk len (showInt t ++ Z)) = .ok (t, mk len Z) := by
  obtain ⟨hne, hch⟩ := showInt_chars t
  unfold parseIsizeAt
  simp only [mk_rest, spanSigned_app _ _ hch hZ, nonempty_isEmpty hne, Bool.false_eq_true, if_false,
    parseIsize_showInt t h1 h2]
  rfl

def wfStamp : Stamp → Bool
  | .fixed t => decide (-(2 ^ 63 : Int) ≤ t) && decide (t < 2 ^ 63)
  | _ => true
def wfTruth (tr : Truth) : Bool := tr.components.all Num.ok
def wfBudget (b : Budget) : Bool := b.components.all Num.ok

/-- the keyword a non-eternal stamp is printed with -/
def stampKw (F : EFormat) : Stamp → Str
  | .eternal => []
  | .past => F.stampPast | .present => F.stampPresent | .future => F.stampFuture | .fixed _ => F.stampFixed

theorem stampKw_mem {F : EFormat} (st : Stamp) (h : st ≠ .eternal) : stampKw F st ∈ stampKws F := by
  cases st <;> simp_all [stampKw, stampKws]

/-- an optional item of the sentence line: preceded by the term space when present -/
def sepItem (F : EFormat) (X : Str) : Str := if X.isEmpty then [] else F.spaceTerms ++ X

theorem fmtSentence_eq (F : EFormat) (s : Sentence) :
    F.fmtSentence s = F.fmtTerm s.term ++ (F.fmtPunct s.punct ++
      (sepItem F (F.fmtStamp s.stamp) ++ sepItem F (F.fmtTruth s.truthOrEmpty))) := by
  simp only [fmtSentence, joinLest, sepItem, List.filter]
  by_cases h1 : (F.fmtStamp s.stamp).isEmpty = true <;> by_cases h2 : (F.fmtTruth s.truthOrEmpty).isEmpty = true <;>
    simp [h1, h2, List.append_assoc]

theorem fromPunctuation_self (s : Sentence) :
    Sentence.fromPunctuation s.term s.punct s.stamp s.truthOrEmpty = s := by
  cases s <;> rfl

def wfSentence (F : EFormat) (s : Sentence) : Bool := wfT F s.term && wfStamp s.stamp && wfTruth s.truthOrEmpty
def wfTask (F : EFormat) (k : Task) : Bool := wfSentence F k.sentence && wfBudget k.budget

section
variable {F : EFormat} (len : Nat)

theorem fmtPunct_mem (p : Punct) : F.fmtPunct p ∈ punctKws F := by
  cases p <;> simp [fmtPunct, punctKws]

/-- the term: second alternative; the budget reader either does not fire or backs off -/
theorem consumeOne_term (m : Mid) (hm : m.term = none) (T Y : Str) (t : Term)
    (hns : isPre F.spaceParse T = false)
    (hb : m.budget.isSome = true ∨ isPre F.budgetL T = false ∨ ∃ e, F.consumeBudget (mk len T) = .err e)
    (hterm : F.parseTerm (termFuel (mk len T)) (mk len T) = .ok (t, mk len Y)) :
    F.consumeOne (mk len T) m = .ok (mk len Y, { m with term := some t }) := by
  unfold consumeOne
  simp only [mk_startsWith, hns, Bool.false_eq_true, if_false]
  -- whatever the budget alternative does, the term alternative comes next and fires
  have hrun : ∀ (k : Cur → PRes (Cur × Mid)) (now : Cur),
      alt (fun _ => m.term.isNone)
        (liftStep (F.parseTerm (termFuel (mk len T)) (mk len T)) (fun t => { m with term := some t })) k now =
        .ok (mk len Y, { m with term := some t }) := fun k now =>
    alt_hit (by simp [hm]) (by rw [hterm]; rfl)
  by_cases hg : ((mk len T).startsWith F.budgetL && m.budget.isNone) = true
  · rcases hb with hb | hb | ⟨e, hb⟩
    · cases hmb : m.budget with
      | none => simp [hmb] at hb
      | some _ => simp [hmb] at hg
    · simp [hb] at hg
    · refine (alt_err (e := e) hg ?_).trans (hrun _ e)
      rw [hb]; rfl
  · exact (alt_skip (Bool.eq_false_iff.mpr hg)).trans (hrun _ _)

end

section
variable {F : EFormat} (hI : ItemsOK F) (len : Nat)
include hI

theorem consumePunct_txt (p : Punct) (Y : Str) :
    F.consumePunct (mk len (F.fmtPunct p ++ Y)) = .ok (p, mk len Y) := by
  obtain ⟨h12, h13, h14, h23, h24, h34⟩ := pairwiseB_four hI.split.punct_pairs
  unfold consumePunct
  cases p with
  | judgement => simp only [fmtPunct, mk_startsWith, isPre_append, if_true, mk_skip]
  | goal =>
    simp only [fmtPunct, mk_startsWith, isPre_append, not_isPre_of_incompat h12 Y, Bool.false_eq_true, if_false,
      if_true, mk_skip]
  | question =>
    simp only [fmtPunct, mk_startsWith, isPre_append, not_isPre_of_incompat h13 Y, not_isPre_of_incompat h23 Y,
      Bool.false_eq_true, if_false, if_true, mk_skip]
  | quest =>
    simp only [fmtPunct, mk_startsWith, isPre_append, not_isPre_of_incompat h14 Y, not_isPre_of_incompat h24 Y,
      not_isPre_of_incompat h34 Y, Bool.false_eq_true, if_false, if_true, mk_skip]

theorem consumeOne_punct (m : Mid) (t : Term) (hm : m.term = some t) (hp : m.punct = none) (p : Punct) (Y : Str) :
    F.consumeOne (mk len (F.fmtPunct p ++ Y)) m = .ok (mk len Y, { m with punct := some p }) := by
  obtain ⟨_, _, hsp, hbl⟩ := hI.punct (fmtPunct_mem p)
  unfold consumeOne
  simp only [mk_startsWith, not_isPre_of_incompat hsp Y, Bool.false_eq_true, if_false]
  refine (alt_skip ?_).trans ?_
  · simp [not_isPre_of_incompat hbl Y]
  refine (alt_skip ?_).trans ?_
  · simp [hm]
  refine alt_hit ?_ ?_
  · simp [hp]
  · rw [consumePunct_txt hI len p Y]; rfl

/-- with an empty stamp opener (Han) the stamp reader is tried on the truth and fails on the spot -/
theorem consumeStamp_on_truth (hl : F.stampL = []) (Z : Str) :
    F.consumeStamp (mk len (F.truthL ++ Z)) = .err (mk len (F.truthL ++ Z)) := by
  obtain ⟨_, _, hsp⟩ := hI.truthList
  have hk := fun k hk => (hI.stampKw (k := k) hk).2.2.2
  unfold consumeStamp
  have : F.skipAndSpaces (mk len (F.truthL ++ Z)) F.stampL = mk len (F.truthL ++ Z) := by
    have := skipAndSpaces_mk len [] (F.truthL ++ Z) (not_isPre_of_incompat hsp Z)
    simpa [hl] using this
  rw [this]
  simp only [mk_startsWith, not_isPre_of_incompat (hk F.stampFixed (by simp [stampKws])) Z,
    not_isPre_of_incompat (hk F.stampPast (by simp [stampKws])) Z,
    not_isPre_of_incompat (hk F.stampPresent (by simp [stampKws])) Z,
    not_isPre_of_incompat (hk F.stampFuture (by simp [stampKws])) Z, Bool.false_eq_true, if_false,
    raise_eq_err]

end

def withStamp (m : Mid) (st : Stamp) : Mid := if st = .eternal then m else { m with stamp := some st }
def withTruth (m : Mid) (tr : Truth) : Mid := if tr = .empty then m else { m with truth := some tr }

/-- the cursor is in front of the item text `T` (possibly behind spaces) -/
def Lands (F : EFormat) (len : Nat) (c : Cur) (T : Str) : Prop :=
  c.canConsume = true ∧ F.skipSpaces c = mk len T ∧ T ≠ []

section
variable {F : EFormat} (len : Nat)

theorem bm_step {c : Cur} {T : Str} {m m2 : Mid} {c2 : Cur} {x : Cur × Mid} (hL : Lands F len c T)
    (hone : F.consumeOne (mk len T) m = .ok (c2, m2)) (hrest : ∀ f, R (F.buildMid f c2 m2) x) :
    ∀ fuel, R (F.buildMid fuel c m) x
  | 0 => R_fuel _
  | f + 1 => by
    rw [buildMid]
    simp only [hL.1, hL.2.1, mk_canConsume, nonempty_isEmpty hL.2.2, Bool.not_true, Bool.not_false,
      Bool.false_eq_true, if_false, hone]
    exact hrest f

end

theorem toRes_ok {α : Type} (a : α) : (PRes.ok a).toRes = Res.ok a := rfl

/-- from the fuel-relative statement to the entry point's own fuel -/
theorem runState_of_R {F : EFormat} (hs : SaneAll F) (input : Str) (m : Mid) (v : Narsese) (m' : Mid)
    (hR : ∀ fuel, R (F.buildMid fuel (mk input.length input) {}) (mk input.length [], m))
    (ht : transformMid (mk input.length []) m = .ok (v, m')) :
    F.eparse input = .ok v := by
  have hc : Cur.ofEnv input = mk input.length input := rfl
  unfold eparse runState
  simp only [hc]
  have h := (hR (midFuel (mk input.length input))).resolve_left
    ((buildMid_sat F hs _ _ _).ne_fuel (by simp [midFuel, mk]))
  simp only [h, ht, toRes_ok]

end Narsese
