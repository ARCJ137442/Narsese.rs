/-
  `parse (format v) = Ok v` for whole Narsese values. The formatter's text is the spelling `canonSent` /
  `canonTask` of the value, admissible for every `ItemsOK` format; `eparse_spelling` reads it. When a top-level
  term is safe from the lenient budget reader (`topOK`): two decidable criteria, and the round trip stated with them.
-/
import Proofs.Spelling.Value
import Proofs.Spelling.Canon
set_option autoImplicit false

namespace Narsese
open EFormat

def bare (x : Num) : SNum := { pre := 0, x := x, post := 0 }

theorem bare_txt (F : EFormat) (x : Num) : SNum.txt F (bare x) = x.text := by simp [SNum.txt, bare, ws]

theorem map_bare_x (xs : List Num) : (xs.map bare).map (·.x) = xs := by
  simp [Function.comp_def, bare]

def canonStamp (F : EFormat) (st : Stamp) : Option SStamp :=
  if st = .eternal then none else some { n := spN F, a := 0, b := 0, c := 0, st := st }
def canonTruth (F : EFormat) (tr : Truth) : Option STruth :=
  if tr = .empty then none else some { n := spN F, items := tr.components.map bare }
/-- the formatter's sentence line: the optional items are preceded by the term space, nothing else is spaced -/
def canonSent (F : EFormat) (s : Sentence) : SSentence :=
  { term := canonS (spN F) s.term, n1 := 0, punct := s.punct, stamp := canonStamp F s.stamp,
    truth := canonTruth F s.truthOrEmpty, trail := 0 }

def canonTask (F : EFormat) (k : Task) : STask :=
  { e := 0, bitems := k.budget.components.map bare, n0 := 1, sent := canonSent F k.sentence }

theorem denStamp_canon (F : EFormat) (st : Stamp) : denStamp (canonStamp F st) = st := by
  unfold canonStamp
  split
  · next h => rw [h]; rfl
  · rfl

theorem denTruth_canon (F : EFormat) (tr : Truth) : denTruth (canonTruth F tr) = some tr := by
  unfold canonTruth
  split
  · next h => rw [h]; rfl
  · next h => rw [denTruth, map_bare_x, mkTruth_components tr h]

theorem wfSStamp_canon (F : EFormat) (st : Stamp) (h : wfStamp st = true) : wfSStamp F (canonStamp F st) = true := by
  unfold canonStamp
  split
  · rfl
  · next hst => simp [wfSStamp, hst, h]

theorem wfSTruth_canon (F : EFormat) (tr : Truth) (h : wfTruth tr = true) : wfSTruth (canonTruth F tr) = true := by
  unfold canonTruth
  split
  · rfl
  · simpa [wfSTruth, wfTruth, List.all_map, Function.comp_def, bare] using h

section
variable {F : EFormat} (hI : ItemsOK F)
include hI

theorem stampPart_canon (st : Stamp) : stampPart F (canonStamp F st) = sepItem F (F.fmtStamp st) := by
  by_cases hst : st = .eternal
  · subst hst; rfl
  · simp [canonStamp, hst, stampPart, sstampTxt_zero F st hst, sepItem, fmtStamp_ne hI st hst, ← hI.base.spaceTerms_ws]

theorem truthPart_canon (tr : Truth) : truthPart F (canonTruth F tr) = sepItem F (F.fmtTruth tr) := by
  have hne := hI.truthList.2.1
  cases tr with
  | empty => rfl
  | _ =>
    simp [canonTruth, truthPart, struthTxt, Function.comp_def, bare_txt, sepItem, fmtTruth, fmtFloats,
      ← hI.base.spaceTerms_ws, hne, List.append_assoc]

/-- the formatter's stamp has no space behind its opener; where it writes no space between a fixed stamp's number and
the truth, `spaceTerms` is empty, and `itemsOKB` asks for the truth opener not to continue the number -/
theorem admTail_canon (st : Stamp) (tr : Truth) : admTail F (canonStamp F st) (canonTruth F tr) := by
  intro ss hss
  have hss' : ss.a = 0 ∧ ss.c = 0 := by
    unfold canonStamp at hss
    split at hss
    · cases hss
    · cases hss; exact ⟨rfl, rfl⟩
  refine ⟨fun h0 => absurd hss'.1 h0, fun t ht hr _ hn => ?_⟩
  have hn0 : spN F = 0 := by
    unfold canonTruth at ht
    split at ht
    · cases ht
    · cases ht; exact hn
  simpa [hI.base.spaceTerms_ws, hn0, ws] using hI.stampR_nil hr

theorem canonSent_spec (s : Sentence) (hwf : wfSentence F s = true) :
    sentTxt F (canonSent F s) = F.fmtSentence s ∧ admS F (canonSent F s) ∧ wfSSent F (canonSent F s) = true ∧
    denSent F (canonSent F s) = some s := by
  simp only [wfSentence, Bool.and_eq_true] at hwf
  obtain ⟨⟨hwt, hwst⟩, hwtr⟩ := hwf
  obtain ⟨h1, h2, h3, h4⟩ := canonS_spells hI.base s.term hwt
  refine ⟨?_, ⟨by simp [canonSent, h4], admTail_canon hI _ _⟩, ?_, ?_⟩
  · simp only [sentTxt, ssentTail, canonSent, h1, stampPart_canon hI, truthPart_canon hI, fmtSentence_eq, ws,
      List.nil_append, List.append_nil]
  · simp only [wfSSent, canonSent, h3, wfSStamp_canon F _ hwst, wfSTruth_canon F _ hwtr, Bool.and_self]
  · simp only [denSent, canonSent, h2, denTruth_canon, denStamp_canon]
    exact congrArg some (fromPunctuation_self s)

/-- the budget reader does not take the printed term for a budget: the same condition on its spelling -/
theorem topSOK_canon {t : Term} (ht : wfT F t = true) (h : topOK F t) : topSOK F (canonS (spN F) t) := by
  simpa [topSOK, stxt, (canonS_spells hI.base t ht).txt] using h

theorem eparse_fmt_term (t : Term) (ht : wfT F t = true) (htop : topOK F t) :
    F.eparse (F.fmtTerm t) = .ok (.term t) := by
  obtain ⟨h1, h2, h3, h4⟩ := canonS_spells hI.base t ht
  have := eparse_spelling hI (.term 0 (canonS (spN F) t) 0) (by simp [admV, h4]) h3 (topSOK_canon hI ht htop)
    (.term t) (by simp [denVal, h2])
  simpa [svalTxt, ws, h1] using this

theorem eparse_fmt_sentence (s : Sentence) (hwf : wfSentence F s = true) (htop : topOK F s.term) :
    F.eparse (F.fmtSentence s) = .ok (.sentence s) := by
  have hwt : wfT F s.term = true := by
    simp only [wfSentence, Bool.and_eq_true] at hwf; exact hwf.1.1
  obtain ⟨h1, h2, h3, h4⟩ := canonSent_spec hI s hwf
  have := eparse_spelling hI (.sentence 0 (canonSent F s)) h2 h3 (topSOK_canon hI hwt htop) (.sentence s)
    (by simp [denVal, h4])
  simpa [svalTxt, ws, h1] using this

theorem eparse_fmt_task (k : Task) (hwf : wfTask F k = true) :
    F.eparse (F.fmtTask k) = .ok (.task k) := by
  simp only [wfTask, Bool.and_eq_true] at hwf
  obtain ⟨h1, h2, h3, h4⟩ := canonSent_spec hI k.sentence hwf.1
  have hne : (F.fmtSentence k.sentence).isEmpty = false := by
    rw [← h1]; exact nonempty_isEmpty (sentTxt_facts hI _ h3).2
  have := eparse_spelling hI (.task 0 (canonTask F k)) h2
    (by simpa [wfV, canonTask, h3, wfBudget, List.all_map, Function.comp_def, bare] using hwf.2) trivial (.task k)
    (by simp only [denVal, canonTask, map_bare_x, mkBudget_components, h4])
  have hb : snumsTxt F F.budgetSep 0 (k.budget.components.map bare) =
      joinWith F.budgetSep (k.budget.components.map (·.text)) := by
    cases k.budget <;> simp [snumsTxt, Budget.components, joinWith, bare_txt, ws]
  simpa [svalTxt, taskTxt, canonTask, sbudgetTxt, hb, ws, h1, fmtTask, fmtBudget, fmtFloats, hne,
    hI.spaceItems, List.append_assoc] using this

end

def isIVar : Term → Bool
  | .atom .ivar _ => true
  | _ => false

/-- keywords a term other than an independent variable can begin with -/
def startersNoIVar (F : EFormat) : List Str :=
  openers F ++ [F.prePlaceholder, F.preDVar, F.preQVar, F.preInterval, F.preOperator]

/-- format-level criterion: the budget opener is not a name character and can only be confused with the
prefix of the independent variable (true for ASCII and LaTeX, false for Han whose keywords are name chars) -/
def topFmtOKB (F : EFormat) : Bool :=
  !F.budgetL.isEmpty && F.budgetL.head?.all (fun c => !F.isName c) &&
  (startersNoIVar F).all (fun k => incompat F.budgetL k)

/-- when a top-level independent variable shares the budget bracket (`$x`), the lenient budget reader
must back off at the first character of the name: that character is a name character, so it must be
neither part of a number nor the start of the budget separator / closer -/
def backoffOKB (F : EFormat) : Bool :=
  !F.isName '.' && F.budgetSep.head?.all (fun c => !F.isName c) && F.budgetR.head?.all (fun c => !F.isName c)

/-- per-term criterion: the printed term and the budget opener are incompatible, or the term is an
independent variable `$name` sharing the budget opener, whose name does not begin with a digit, in a
format where the budget reader backs off at a name character -/
def topOKB (F : EFormat) (t : Term) : Bool :=
  incompat F.budgetL (F.fmtTerm t) ||
  (backoffOKB F && F.budgetL == F.preIVar &&
    match t with
    | .atom .ivar (c :: _) => !isDigit c
    | _ => false)

theorem opening_noIVar (F : EFormat) (t : Term) (hn : isIVar t = false) (k : Str) (h : opening F t = some k) :
    k ∈ startersNoIVar F := by
  cases ha : isAtomic t with
  | false => exact List.mem_append_left _ (opening_openers F t ha k h)
  | true =>
    refine List.mem_append_right _ ?_
    cases t with
    | atom a n => cases a <;> cases h <;> simp [atomPrefix, isIVar] at hn ⊢
    | placeholder | interval _ => cases h; simp
    | _ => simp [isAtomic] at ha

/-- **format-level criterion**: every well-formed term that is not an independent variable is safe -/
theorem topOK_of_notIVar {F : EFormat} (hF : FormatOK F) (hT : topFmtOKB F = true) (t : Term)
    (ht : wfT F t = true) (hn : isIVar t = false) : topOK F t := by
  simp only [topFmtOKB, Bool.and_eq_true, Bool.not_eq_true', List.isEmpty_eq_false_iff, List.all_eq_true] at hT
  exact .inl fun X => (fmtTerm_startsIn hF t ht (opening_noIVar F t hn) X).not_isPre hT.1.1 hT.1.2 hT.2

/-- the lenient budget reader backs off at a name character that is not a digit -/
theorem consumeBudget_backoff {F : EFormat} (hI : ItemsOK F) (hB : backoffOKB F = true) (len : Nat)
    (c : Char) (cs : Str) (hc : F.isName c = true) (hd : isDigit c = false) :
    ∃ e, F.consumeBudget (mk len (F.budgetL ++ (c :: cs))) = .err e := by
  obtain ⟨hL, _, _⟩ := hI.budgetList
  simp only [backoffOKB, Bool.and_eq_true, Bool.not_eq_true'] at hB
  obtain ⟨⟨hdot, hsep⟩, hrb⟩ := hB
  obtain ⟨hspne, hsph, _⟩ := terminator_parts (hI.base.terminator (x := F.spaceParse) (by simp))
  have hns := not_isPre_name hspne hsph hc cs
  have hnsep := not_isPre_name hL.sep_ne hsep hc cs
  have hnrb := not_isPre_name hL.rb_ne hrb hc cs
  have hcd : (c = '.' || isDigit c) = false := by
    have : c ≠ '.' := fun h => by simp [h, hdot] at hc
    simp [this, hd]
  refine ⟨mk len (c :: cs), ?_⟩
  rw [consumeBudget_eq, readItem, skipAndSpaces_mk len F.budgetL _ hns, mk_rest,
    parseFloats_step len 3 _ _ _ rfl [] [] (by decide), if_neg (by simp [hns]), if_neg (by simp [hcd]),
    if_neg (by simp [hnsep]), if_neg (by simp [hnrb]), raise_eq_err]
  rfl

theorem topOK_of_B {F : EFormat} (hI : ItemsOK F) (t : Term) (ht : wfT F t = true) (h : topOKB F t = true) :
    topOK F t := by
  simp only [topOKB, Bool.or_eq_true, Bool.and_eq_true, beq_iff_eq] at h
  rcases h with h | ⟨⟨hB, hpre⟩, hm⟩
  · exact .inl (fun X => not_isPre_of_incompat h X)
  · match t, ht, hm with
    | .atom .ivar (c :: cs), ht, hm =>
      simp only [Bool.not_eq_true'] at hm
      simp only [wfT] at ht
      obtain ⟨c', cs', e, hc⟩ := nameOK_head ht
      simp only [List.cons.injEq] at e
      obtain ⟨rfl, rfl⟩ := e
      refine .inr (fun len X => ?_)
      have := consumeBudget_backoff hI hB len c (cs ++ X) hc hm
      simpa [stxt, fmtTerm, atomPrefix, hpre, List.append_assoc] using this

def wfN (F : EFormat) : Narsese → Bool
  | .term t => wfT F t
  | .sentence s => wfSentence F s
  | .task k => wfTask F k

/-- the top-level condition only concerns values without a budget in front -/
def topN (F : EFormat) : Narsese → Bool
  | .term t => topOKB F t || (topFmtOKB F && !isIVar t)
  | .sentence s => topOKB F s.term || (topFmtOKB F && !isIVar s.term)
  | .task _ => true

theorem topOK_of_topN {F : EFormat} (hI : ItemsOK F) (t : Term) (ht : wfT F t = true)
    (h : (topOKB F t || (topFmtOKB F && !isIVar t)) = true) : topOK F t := by
  simp only [Bool.or_eq_true, Bool.and_eq_true, Bool.not_eq_true'] at h
  rcases h with h | ⟨h1, h2⟩
  · exact topOK_of_B hI t ht h
  · exact topOK_of_notIVar hI.base h1 t ht h2

/-- **C01, whole values**: for every format satisfying the decidable side conditions, every
well-formed Narsese value — any term depth, any of the three kinds — reads back as itself -/
theorem eparse_fmtNarsese {F : EFormat} (hI : ItemsOK F) (v : Narsese) (hwf : wfN F v = true)
    (htop : topN F v = true) : F.eparse (F.fmtNarsese v) = .ok v := by
  cases v with
  | term t => exact eparse_fmt_term hI t hwf (topOK_of_topN hI t hwf htop)
  | sentence s =>
    have hwt : wfT F s.term = true := by
      simp only [wfN, wfSentence, Bool.and_eq_true] at hwf; exact hwf.1.1
    exact eparse_fmt_sentence hI s hwf (topOK_of_topN hI s.term hwt htop)
  | task k => exact eparse_fmt_task hI k hwf

end Narsese
