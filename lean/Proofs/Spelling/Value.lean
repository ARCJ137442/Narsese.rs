/-
  Whole surface values (term / sentence / task with spaces anywhere between tokens), their text and denotation;
  `build_mid_result` over a spaced sentence line; the enum entry point on whole surface values
  (`eparse_spelling`, `eparse_svalTxt`).
-/
import Proofs.Spelling.ConsumeOne
import Proofs.Spelling.Term
set_option autoImplicit false

namespace Narsese
open EFormat

/-- a stamp with its spaces: `␣ⁿ stampL ␣ᵃ keyword [␣ᵇ number] ␣ᶜ stampR` (`stampPart`, `sstampTxt`) -/
structure SStamp where
  n : Nat      -- in front of the stamp (behind the punctuation mark)
  a : Nat      -- behind the opener
  b : Nat      -- between the keyword of a fixed stamp and its number (not written for the other stamps)
  c : Nat      -- in front of the closer
  st : Stamp

/-- a non-empty truth with its spaces: `␣ⁿ truthL numbers truthR` (`truthPart`, `struthTxt`) -/
structure STruth where
  n : Nat              -- in front of the truth (behind the stamp, or the punctuation mark)
  items : List SNum    -- the numbers, each with the spaces before and after it

/-- a sentence line: `term ␣ⁿ¹ punctuation stamp? truth?`, then `trail` spaces (`sentTxt`, `ssentTail`) -/
structure SSentence where
  term : STerm
  n1 : Nat       -- between the term and the punctuation mark
  punct : Punct
  stamp : Option SStamp
  truth : Option STruth
  trail : Nat    -- behind the last item, at the end of the input

/-- a task line: `budgetL numbers budgetR ␣ⁿ⁰ sentence` (`taskTxt`, `sbudgetTxt`) -/
structure STask where
  e : Nat                -- between the brackets of a budget without numbers (not written otherwise)
  bitems : List SNum     -- the budget's numbers, each with the spaces before and after it
  n0 : Nat               -- between the budget and the sentence
  sent : SSentence

/-- `lead`: spaces in front of the first token; `trail` (bare term): spaces behind it -/
inductive SValue where
  | term (lead : Nat) (st : STerm) (trail : Nat)
  | sentence (lead : Nat) (s : SSentence)
  | task (lead : Nat) (k : STask)

def stampPart (F : EFormat) : Option SStamp → Str
  | none => []
  | some s => ws F s.n ++ sstampTxt F s.st s.a s.b s.c
def truthPart (F : EFormat) : Option STruth → Str
  | none => []
  | some s => ws F s.n ++ struthTxt F s.items

def ssentTail (F : EFormat) (s : SSentence) : Str :=
  ws F s.n1 ++ (F.fmtPunct s.punct ++ (stampPart F s.stamp ++ (truthPart F s.truth ++ ws F s.trail)))
def sentTxt (F : EFormat) (s : SSentence) : Str := stxt F s.term ++ ssentTail F s
def taskTxt (F : EFormat) (k : STask) : Str := sbudgetTxt F k.e k.bitems ++ (ws F k.n0 ++ sentTxt F k.sent)
def svalTxt (F : EFormat) : SValue → Str
  | .term lead st trail => ws F lead ++ (stxt F st ++ ws F trail)
  | .sentence lead s => ws F lead ++ sentTxt F s
  | .task lead k => ws F lead ++ taskTxt F k

def denStamp : Option SStamp → Stamp
  | none => .eternal
  | some s => s.st
def denTruth : Option STruth → Option Truth
  | none => some .empty
  | some s => mkTruth (s.items.map (·.x))
def denSent (F : EFormat) (s : SSentence) : Option Sentence :=
  match den F s.term, denTruth s.truth with
  | some t, some tr => some (Sentence.fromPunctuation t s.punct (denStamp s.stamp) tr)
  | _, _ => none
def denVal (F : EFormat) : SValue → Option Narsese
  | .term _ st _ => (den F st).map .term
  | .sentence _ s => (denSent F s).map .sentence
  | .task _ k =>
    match mkBudget (k.bitems.map (·.x)), denSent F k.sent with
    | some b, some s => some (.task { sentence := s, budget := b })
    | _, _ => none

theorem denSent_some {F : EFormat} {s : SSentence} {x : Sentence} (h : denSent F s = some x) :
    ∃ t tr, den F s.term = some t ∧ denTruth s.truth = some tr ∧
      x = Sentence.fromPunctuation t s.punct (denStamp s.stamp) tr := by
  simp only [denSent] at h
  cases ht : den F s.term <;> cases htr : denTruth s.truth <;> simp only [ht, htr, Option.some.injEq, reduceCtorEq] at h
  exact ⟨_, _, rfl, rfl, h.symm⟩

theorem denVal_task {F : EFormat} {lead : Nat} {k : STask} {v : Narsese} (h : denVal F (.task lead k) = some v) :
    ∃ b s, mkBudget (k.bitems.map (·.x)) = some b ∧ denSent F k.sent = some s ∧ v = .task { sentence := s, budget := b } := by
  simp only [denVal] at h
  cases hb : mkBudget (k.bitems.map (·.x)) <;> cases hs : denSent F k.sent <;>
    simp only [hb, hs, Option.some.injEq, reduceCtorEq] at h
  exact ⟨_, _, rfl, rfl, h.symm⟩

/-- last conjunct: with an empty opener the spaces "behind the opener" would stand in front of the stamp, where `n`
counts them; `a = 0` then, so that the text of a stamp never begins with a space (`sstampTxt_facts`) -/
def wfSStamp (F : EFormat) : Option SStamp → Bool
  | none => true
  | some s => !(s.st == .eternal) && wfStamp s.st && (!F.stampL.isEmpty || s.a == 0)
def wfSTruth : Option STruth → Bool
  | none => true
  | some s => s.items.all (fun i => i.x.ok)
def wfSSent (F : EFormat) (s : SSentence) : Bool := wfS F s.term && wfSStamp F s.stamp && wfSTruth s.truth

/-- the whole-value parser tries the budget first: the text of a top-level term must not be taken for a
budget — either it cannot begin with the budget opener, or the lenient budget reader backs off on it -/
def topSOK (F : EFormat) (st : STerm) : Prop :=
  (∀ X, isPre F.budgetL (stxt F st ++ X) = false) ∨
  (∀ len X, ∃ e, F.consumeBudget (mk len (stxt F st ++ X)) = .err e)

/-- the same of the formatter's text of a term: `stxt F (.atom t)` is `F.fmtTerm t`, atomic or not -/
abbrev topOK (F : EFormat) (t : Term) : Prop := topSOK F (.atom t)

/-- what the tail of a sentence line asks of the format beyond `ItemsOK`: spaces between the stamp opener and the
keyword must not make the budget reader fire, and with an empty stamp closer a truth that follows a fixed stamp's
number at once must not continue the number -/
def admTail (F : EFormat) (ss : Option SStamp) (tt : Option STruth) : Prop :=
  ∀ s ∈ ss, (s.a ≠ 0 → F.stampL ≠ [] → incompat F.budgetL F.stampL = true) ∧
    ∀ t ∈ tt, F.stampR = [] → s.c = 0 → t.n = 0 → headNotIn F.truthL signChars = true

/-- what a spelling asks of the format beyond `ItemsOK`; nothing, for the formatter's own -/
def admS (F : EFormat) (s : SSentence) : Prop :=
  (connSp s.term = true → surfaceOKB F = true) ∧ admTail F s.stamp s.truth

theorem SurfaceItemsOK.admS {F : EFormat} (h : SurfaceItemsOK F) (s : SSentence) : admS F s :=
  ⟨fun _ => h.surf.conn_space, fun _ _ => ⟨fun _ => h.budget_stamp, fun _ _ _ _ _ => h.truth_sign⟩⟩

section
variable {F : EFormat} (hI : ItemsOK F) (len : Nat)
include hI

theorem bm_end_ws (m : Mid) : ∀ (n fuel : Nat), R (F.buildMid fuel (mk len (ws F n)) m) (mk len [], m)
  | _, 0 => R_fuel _
  | n, f + 1 => by
    have hsk : F.skipSpaces (mk len (ws F n)) = mk len [] := by
      simpa using skipSpaces_ws hI.base len n [] (isPre_nil hI.base.sane.space_ne)
    rw [buildMid]
    by_cases he : ws F n = []
    · simp [he, R]
    · simp [nonempty_isEmpty he, hsk, R]

theorem lands_ws (n : Nat) (T : Str) (hns : isPre F.spaceParse T = false) (hne : T ≠ []) :
    Lands F len (mk len (ws F n ++ T)) T :=
  ⟨by simp [hne], skipSpaces_ws hI.base len n T hns, hne⟩

theorem headNotIn_ws (n : Nat) (Z cs : Str) (hsp : headNotIn F.spaceParse cs = true)
    (hz : n = 0 → headNotIn Z cs = true) : headNotIn (ws F n ++ Z) cs = true := by
  cases n with
  | zero => simpa [ws] using hz rfl
  | succ n =>
    simp only [ws, List.append_assoc]
    exact headNotIn_app _ hI.base.sane.space_ne hsp _

/-- where the stamp reader stops: in front of `T`, the spaces before it still there unless the closer is empty (the
skip in front of the closer then takes them too) -/
theorem stampEndW_eq (c n : Nat) (T : Str) (hT : isPre F.spaceParse T = false) :
    ∃ k, stampEndW F len c (ws F n ++ T) = mk len (ws F k ++ T) := by
  unfold stampEndW
  by_cases hr : F.stampR = []
  · refine ⟨0, ?_⟩
    rw [hr, List.nil_append, skipAfterSpaces, cur_skip_nil, ← List.append_assoc, ws_add,
      skipSpaces_ws hI.base len _ T hT]
    rfl
  · exact ⟨n, skipAfterSpaces_ws hI.base len F.stampR c _ (not_isPre_of_incompat (hI.stampR hr).2 _)⟩

/-- what follows the number of a fixed stamp is not part of the number -/
theorem stamp_followW (c : Nat) (Y : Str)
    (hY : Y = [] ∨ (∃ n Z, Y = ws F n ++ Z ∧ (F.stampR = [] → c = 0 → n = 0 → headNotIn Z signChars = true))) :
    headNotIn (ws F c ++ (F.stampR ++ Y)) signChars = true := by
  apply headNotIn_ws hI c _ _ hI.split.sp_sign
  intro hc
  by_cases hr : F.stampR = []
  · rw [hr, List.nil_append]
    rcases hY with rfl | ⟨n, Z, rfl, hz⟩
    · simp [headNotIn]
    · exact headNotIn_ws hI n Z _ hI.split.sp_sign (hz hr hc)
  · exact headNotIn_app _ hr (hI.stampR hr).1 Y

omit hI in
theorem withStamp_fields (m : Mid) (st : Stamp) :
    (withStamp m st).term = m.term ∧ (withStamp m st).punct = m.punct ∧ (withStamp m st).truth = m.truth := by
  unfold withStamp
  split <;> exact ⟨rfl, rfl, rfl⟩

/-- the optional stamp in front of `ws n ++ T`; behind it the cursor stands in front of `T`, behind some spaces -/
theorem bm_stampW (m : Mid) (t : Term) (p : Punct) (hm : m.term = some t) (hp : m.punct = some p)
    (hs : m.stamp = none) (ss : Option SStamp) (hws : wfSStamp F ss = true) (n : Nat) (T : Str)
    (hT : isPre F.spaceParse T = false)
    (hadm : ∀ s ∈ ss, (s.a ≠ 0 → F.stampL ≠ [] → incompat F.budgetL F.stampL = true) ∧
      (F.stampR = [] → s.c = 0 → n = 0 → headNotIn T signChars = true))
    {x : Cur × Mid} (cont : ∀ k fuel, R (F.buildMid fuel (mk len (ws F k ++ T)) (withStamp m (denStamp ss))) x) :
    ∀ fuel, R (F.buildMid fuel (mk len (stampPart F ss ++ (ws F n ++ T))) m) x := by
  cases ss with
  | none => simpa only [stampPart, denStamp, withStamp, if_true, List.nil_append] using cont n
  | some s =>
    simp only [wfSStamp, Bool.and_eq_true, Bool.not_eq_true', beq_eq_false_iff_ne, ne_eq, Bool.or_eq_true,
      List.isEmpty_eq_false_iff, beq_iff_eq] at hws
    obtain ⟨⟨hst, hwst⟩, ha⟩ := hws
    have ha' : F.stampL = [] → s.a = 0 := fun h => ha.resolve_left (fun hn => hn h)
    have hbs : s.a ≠ 0 → incompat F.budgetL F.stampL = true := fun h0 =>
      (hadm s rfl).1 h0 (fun hl => h0 (ha' hl))
    have hY := stamp_followW hI s.c (ws F n ++ T) (.inr ⟨n, T, rfl, (hadm s rfl).2⟩)
    have h1 := consumeOne_stampW hI len m t p hm hp hs s.st hst hwst s.a s.b s.c ha' hbs _ hY
    obtain ⟨k, hk⟩ := stampEndW_eq hI len s.c n T hT
    obtain ⟨hns, hne⟩ := sstampTxt_facts hI s.st hst s.a s.b s.c ha' (ws F n ++ T)
    rw [hk] at h1
    simp only [stampPart, List.append_assoc]
    refine bm_step len (lands_ws hI len s.n _ hns hne) h1 ?_
    simpa only [denStamp, withStamp, hst, if_false] using cont k

theorem bm_tailW (m : Mid) (t : Term) (p : Punct) (hm : m.term = some t) (hp : m.punct = some p)
    (hs : m.stamp = none) (htr : m.truth = none) (ss : Option SStamp) (hws : wfSStamp F ss = true)
    (tt : Option STruth) (hwt : wfSTruth tt = true) (hadm : admTail F ss tt) (tr : Truth)
    (hden : denTruth tt = some tr) (trail : Nat) :
    ∀ fuel, R (F.buildMid fuel (mk len (stampPart F ss ++ (truthPart F tt ++ ws F trail))) m)
      (mk len [], withTruth (withStamp m (denStamp ss)) tr) := by
  obtain ⟨e1, e2, e3⟩ := withStamp_fields m (denStamp ss)
  cases tt with
  | none =>
    obtain rfl : Truth.empty = tr := by simpa only [denTruth, Option.some.injEq] using hden
    have := bm_stampW hI len m t p hm hp hs ss hws trail [] (isPre_nil hI.base.sane.space_ne)
      (fun s hs => ⟨(hadm s hs).1, fun _ _ _ => rfl⟩) (fun k => by simpa using bm_end_ws hI len _ k)
    simpa only [truthPart, List.nil_append, List.append_nil, withTruth, if_true] using this
  | some ts =>
    simp only [denTruth] at hden
    simp only [wfSTruth, List.all_eq_true] at hwt
    obtain ⟨_, _, _, hne⟩ := mkTruth_spec hden
    obtain ⟨htns, htne⟩ := struthTxt_facts hI ts.items (ws F trail)
    simp only [truthPart, List.append_assoc, withTruth, hne, if_false]
    refine bm_stampW hI len m t p hm hp hs ss hws ts.n _ htns (fun s hs => ⟨(hadm s hs).1, fun hr hc hn => ?_⟩)
      fun k => bm_step len (lands_ws hI len k _ htns htne)
        (consumeOne_truthW hI len _ t p (e1.trans hm) (e2.trans hp) (e3.trans htr) ts.items hwt tr hden (ws F trail))
        (bm_end_ws hI len _ trail)
    simp only [struthTxt, List.append_assoc]
    exact headNotIn_app _ hI.truthList.2.1 ((hadm s hs).2 ts rfl hr hc hn) _

/-- `build_mid_result` over a spaced sentence line, from any state whose sentence slots are empty -/
theorem bm_sentenceW (m : Mid) (hm : m.term = none) (hp : m.punct = none) (hs : m.stamp = none)
    (htr : m.truth = none) (s : SSentence) (hadm : admS F s) (hwf : wfSSent F s = true) (t : Term)
    (hdt : den F s.term = some t)
    (tr : Truth) (hdtr : denTruth s.truth = some tr)
    (hb : m.budget.isSome = true ∨ topSOK F s.term) (c : Cur) (hL : Lands F len c (sentTxt F s)) :
    ∀ fuel, R (F.buildMid fuel c m)
      (mk len [], withTruth (withStamp { m with term := some t, punct := some s.punct } (denStamp s.stamp)) tr) := by
  simp only [wfSSent, Bool.and_eq_true] at hwf
  obtain ⟨⟨hwt, hwst⟩, hwtr⟩ := hwf
  obtain ⟨hpne, hph, hpsp, _⟩ := hI.punct (fmtPunct_mem s.punct)
  have hstop : Stop F (ssentTail F s) := by
    simp only [ssentTail]
    apply stop_ws hI.base
    exact stop_of_kw F _ _ hpne hph
  have hns := starts_no_space hI.base (stxt_starts hI.base s.term hwt (ssentTail F s))
  have hterm := parseTerm_spelling hI.base len s.term hadm.1 hwt t hdt (ssentTail F s) hstop
    (termFuel (mk len (stxt F s.term ++ ssentTail F s))) (by simp [termFuel, mk]; omega)
  have h1 := consumeOne_term len m hm (stxt F s.term ++ ssentTail F s) (ssentTail F s) t hns
    (hb.imp_right fun h => h.imp (· _) (· len _)) hterm
  refine bm_step len hL h1 ?_
  have h2 := consumeOne_punct hI len { m with term := some t } t rfl hp s.punct
    (stampPart F s.stamp ++ (truthPart F s.truth ++ ws F s.trail))
  have hL2 : Lands F len (mk len (ssentTail F s))
      (F.fmtPunct s.punct ++ (stampPart F s.stamp ++ (truthPart F s.truth ++ ws F s.trail))) :=
    lands_ws hI len s.n1 _ (not_isPre_of_incompat hpsp _) (by simp [hpne])
  refine bm_step len hL2 h2 ?_
  exact bm_tailW hI len { m with term := some t, punct := some s.punct } t s.punct rfl rfl hs htr s.stamp hwst
    s.truth hwtr hadm.2 tr hdtr s.trail

end

theorem transform_line (c : Cur) (ob : Option Budget) (t : Term) (p : Punct) (st : Stamp) (tr : Truth) :
    transformMid c (withTruth (withStamp { budget := ob, term := some t, punct := some p } st) tr) =
      .ok (match ob with
        | some b => .task { sentence := Sentence.fromPunctuation t p st tr, budget := b }
        | none => .sentence (Sentence.fromPunctuation t p st tr), {}) := by
  by_cases h1 : st = .eternal <;> by_cases h2 : tr = .empty <;> cases ob <;>
    simp [transformMid, withTruth, withStamp, h1, h2]

/-- the whole-value condition on the term in front (only for values without a budget) -/
def topV (F : EFormat) : SValue → Prop
  | .term _ st _ => topSOK F st
  | .sentence _ s => topSOK F s.term
  | .task _ _ => True

def wfV (F : EFormat) : SValue → Bool
  | .term _ st _ => wfS F st
  | .sentence _ s => wfSSent F s
  | .task _ k => wfSSent F k.sent && k.bitems.all (fun i => i.x.ok)

def admV (F : EFormat) : SValue → Prop
  | .term _ st _ => connSp st = true → surfaceOKB F = true
  | .sentence _ s => admS F s
  | .task _ k => admS F k.sent

theorem SurfaceItemsOK.admV {F : EFormat} (h : SurfaceItemsOK F) : ∀ sv, admV F sv
  | .term _ _ _ => fun _ => h.surf.conn_space
  | .sentence _ s => h.admS s
  | .task _ k => h.admS k.sent

section
variable {F : EFormat} (hI : ItemsOK F)
include hI

theorem sentTxt_facts (s : SSentence) (hwf : wfSSent F s = true) :
    isPre F.spaceParse (sentTxt F s) = false ∧ sentTxt F s ≠ [] := by
  simp only [wfSSent, Bool.and_eq_true] at hwf
  have hst := stxt_starts hI.base s.term hwf.1.1 (ssentTail F s)
  exact ⟨starts_no_space hI.base hst, hst.ne_nil hI.base⟩

theorem eparse_spelling (sv : SValue) (hadm : admV F sv) (hwf : wfV F sv = true) (htop : topV F sv) (v : Narsese)
    (hden : denVal F sv = some v) : F.eparse (svalTxt F sv) = .ok v := by
  cases sv with
  | term lead st trail =>
    simp only [wfV] at hwf
    obtain ⟨t, hdt, rfl⟩ := Option.map_eq_some_iff.mp hden
    let len := (svalTxt F (.term lead st trail)).length
    have hstop : Stop F (ws F trail) := by
      have := stop_ws hI.base trail [] (stop_nil F)
      simpa using this
    have hst := stxt_starts hI.base st hwf (ws F trail)
    have hns := starts_no_space hI.base hst
    have hterm := parseTerm_spelling hI.base len st hadm hwf t hdt (ws F trail) hstop
      (termFuel (mk len (stxt F st ++ ws F trail))) (by simp [termFuel, mk]; omega)
    have h1 := consumeOne_term len {} rfl (stxt F st ++ ws F trail) (ws F trail) t hns
      (.inr (htop.imp (· _) (· len _))) hterm
    refine runState_of_R hI.base.sane (svalTxt F (.term lead st trail)) { term := some t } (.term t) _ ?_ rfl
    exact bm_step len (lands_ws hI len lead _ hns (hst.ne_nil hI.base)) h1 (bm_end_ws hI len _ trail)
  | sentence lead s =>
    simp only [wfV] at hwf
    obtain ⟨_, hds, rfl⟩ := Option.map_eq_some_iff.mp hden
    obtain ⟨t, tr, hdt, hdtr, rfl⟩ := denSent_some hds
    let len := (svalTxt F (.sentence lead s)).length
    obtain ⟨hns, hne⟩ := sentTxt_facts hI s hwf
    refine runState_of_R hI.base.sane (svalTxt F (.sentence lead s)) _ _ {} ?_
      (transform_line (mk len []) none t s.punct (denStamp s.stamp) tr)
    exact bm_sentenceW hI len {} rfl rfl rfl rfl s hadm hwf t hdt tr hdtr (.inr htop) _
      (lands_ws hI len lead _ hns hne)
  | task lead k =>
    simp only [wfV, Bool.and_eq_true, List.all_eq_true] at hwf
    obtain ⟨b, _, hdb, hds, rfl⟩ := denVal_task hden
    obtain ⟨t, tr, hdt, hdtr, rfl⟩ := denSent_some hds
    let len := (svalTxt F (.task lead k)).length
    obtain ⟨hns, hne⟩ := sentTxt_facts hI k.sent hwf.1
    have h1 := consumeOne_budgetW hI len {} rfl k.e k.bitems hwf.2 b hdb (ws F k.n0 ++ sentTxt F k.sent)
    obtain ⟨hbns, hbne⟩ := sbudgetTxt_facts hI k.e k.bitems (ws F k.n0 ++ sentTxt F k.sent)
    have hLb : Lands F len (mk len (ws F lead ++ taskTxt F k)) (taskTxt F k) := lands_ws hI len lead _ hbns hbne
    refine runState_of_R hI.base.sane (svalTxt F (.task lead k)) _ _ {} ?_
      (transform_line (mk len []) (some b) t k.sent.punct (denStamp k.sent.stamp) tr)
    refine bm_step len hLb h1 ?_
    exact bm_sentenceW hI len { budget := some b } rfl rfl rfl rfl k.sent hadm hwf.1 t hdt tr hdtr (.inl rfl) _
      (lands_ws hI len k.n0 _ hns hne)

end

section
variable {F : EFormat} (hV : SurfaceItemsOK F)
include hV

/-- under `SurfaceItemsOK` every spelling is admissible -/
theorem eparse_svalTxt (sv : SValue) (hwf : wfV F sv = true) (htop : topV F sv) (v : Narsese)
    (hden : denVal F sv = some v) : F.eparse (svalTxt F sv) = .ok v :=
  eparse_spelling hV.items sv (hV.admV sv) hwf htop v hden

end

end Narsese
