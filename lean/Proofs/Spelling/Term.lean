/-
  `parse_term (surface string ++ rest) = (denotation, rest)` for every well-formed surface tree — any nesting,
  any number of spaces at every token boundary, any copula of the table (derived ones included). Each bracketed
  form is a lemma about arbitrary texts between the brackets that read back (`parseTermSet_spaced`,
  `parseCompound_spaced`, `parseStatement_spaced`); the induction over the tree (`parse_stxt`) assembles them.
-/
import Proofs.Spelling.Surface
set_option autoImplicit false

namespace Narsese
open EFormat

theorem finishCompound_of_finishT (F : EFormat) (ck : ConnK) (l : List Term) (t : Term) (c3 : Cur)
    (h : finishT ck l = some t) : F.finishCompound ck l c3 = .ok (t, F.skipAfterSpaces c3 F.compR) := by
  unfold finishT at h
  unfold finishCompound
  cases ck with
  | neg =>
    match l, h with
    | [x], rfl => rfl
  | diff k =>
    match l, h with
    | [a, b], rfl => rfl
  | img k =>
    simp only at h ⊢
    cases he : extractPlaceholder l with
    | none => simp [he] at h
    | some p =>
      simp only [he, Option.some.injEq] at h
      simp only [h]
  | seq k | set k =>
    cases h
    rfl
  | operatorUnsupported => cases h

section
variable {F : EFormat}

theorem connAt_get {j : Nat} (hj : j < F.connecters.length) : F.connecters[j]? = some (F.connAt j) := by
  rw [connAt, List.getElem?_eq_getElem hj]; rfl

theorem copAt_get {j : Nat} (hj : j < F.copulaTable.length) : F.copulaTable[j]? = some (F.copAt j) := by
  rw [copAt, List.getElem?_eq_getElem hj]; rfl

theorem den_set {ext : Bool} {a c : Nat} {first : STerm} {items : SItems} {t : Term}
    (h : den F (.set ext a first items c) = some t) :
    ∃ f l, den F first = some f ∧ dens F items = some l ∧ t = .setlike (setK ext) (Terms.ofList (mkSetSem (f :: l))) := by
  simp only [den] at h
  cases hf : den F first <;> cases hl : dens F items <;> simp only [hf, hl, Option.some.injEq, reduceCtorEq] at h
  exact ⟨_, _, rfl, rfl, h.symm⟩

theorem den_compound {a j c : Nat} {items : SItems} {t : Term} (h : den F (.compound a j items c) = some t) :
    ∃ l, dens F items = some l ∧ finishT (F.connAt j).2 l = some t := by
  simp only [den] at h
  cases hl : dens F items <;> simp only [hl, reduceCtorEq] at h
  exact ⟨_, rfl, h⟩

theorem den_stmt {a b j c d : Nat} {s p : STerm} {t : Term} (h : den F (.stmt a s b j c p d) = some t) :
    ∃ s' p', den F s = some s' ∧ den F p = some p' ∧ t = (F.copAt j).2.build s' p' := by
  simp only [den] at h
  cases hs : den F s <;> cases hp : den F p <;> simp only [hs, hp, Option.some.injEq, reduceCtorEq] at h
  exact ⟨_, _, rfl, rfl, h.symm⟩

theorem dens_cons {b a : Nat} {t : STerm} {ts : SItems} {l : List Term} (h : dens F (.cons b a t ts) = some l) :
    ∃ t' l', den F t = some t' ∧ dens F ts = some l' ∧ l = t' :: l' := by
  simp only [dens] at h
  cases ht : den F t <;> cases hl : dens F ts <;> simp only [ht, hl, Option.some.injEq, reduceCtorEq] at h
  exact ⟨_, _, rfl, rfl, h.symm⟩

end

mutual
  /-- some connecter of the tree is followed by a space, not at once by the separator: the one place where
  a spelling asks more of the format (`surfaceOKB`) than the formatter's own output does -/
  def connSp : STerm → Bool
    | .atom _ => false
    | .set _ _ first items _ => connSp first || connSps items
    | .compound _ _ items _ => (match items with | .cons (_ + 1) _ _ _ => true | _ => false) || connSps items
    | .stmt _ s _ _ _ p _ => connSp s || connSp p
  def connSps : SItems → Bool
    | .nil => false
    | .cons _ _ t ts => connSp t || connSps ts
end

section
variable {F : EFormat} (hF : FormatOK F) (len : Nat)
include hF

theorem stxt_starts (st : STerm) (hwf : wfS F st = true) (X : Str) : Starts F (stxt F st ++ X) := by
  have pre : ∀ k ∈ starters F, ∀ Y, Starts F (k ++ Y) := fun k hk Y => .inl ⟨k, hk, isPre_append k Y⟩
  cases st with
  | atom t =>
    simp only [wfS, Bool.and_eq_true] at hwf
    exact fmtTerm_startsIn hF t hwf.2 (fun k h => List.mem_append_right _ (opening_prefixes F t hwf.1 k h)) X
  | set ext a first items c =>
    simp only [stxt, List.append_assoc]
    cases ext <;> exact pre _ (by simp [starters, openers, setL]) _
  | compound a j items c =>
    simp only [stxt, List.append_assoc]
    exact pre _ (by simp [starters, openers]) _
  | stmt a s b j c p d =>
    simp only [stxt, List.append_assoc]
    exact pre _ (by simp [starters, openers]) _

theorem items_stop (items : SItems) (c : Nat) {rb : Str} (hrb : rb ∈ closers F) (rest : Str) :
    Stop F (itemsTxt F items ++ (ws F c ++ (rb ++ rest))) := by
  cases items with
  | nil =>
    simp only [itemsTxt, List.nil_append]
    exact stop_ws hF c _ (stop_terminator (closer_terminator hF hrb) rest)
  | cons b a t ts =>
    simp only [itemsTxt, List.append_assoc]
    exact stop_ws hF b _ (stop_terminator (hF.terminator (x := F.separator) (by simp)) _)

theorem dispatch_set (ext : Bool) (fuel : Nat) (Y : Str) :
    F.parseTerm (fuel + 1) (mk len (F.setL ext ++ Y)) =
      F.parseTermSet fuel (setK ext) (F.setL ext) (F.setR ext) (mk len (F.setL ext ++ Y)) := by
  obtain ⟨h12, -⟩ := pairwiseB_four hF.split.opener_pairs
  rw [parseTerm]
  cases ext
  · simp only [setL, setR, setK, mk_startsWith, isPre_append, not_isPre_of_incompat h12 Y, Bool.false_eq_true, if_false,
      if_true]
  · simp only [setL, setR, setK, mk_startsWith, isPre_append, if_true]

/-- the written connecter is the first match of the ordered table, whether the separator follows at once
(`formatOKB`) or behind spaces (`surfaceOKB`) -/
theorem conn_find (j : Nat) (e : Str × ConnK) (he : F.connecters[j]? = some e) (a c : Nat) (items : SItems)
    (hne : items ≠ .nil) (hC : connSp (.compound a j items c) = true → surfaceOKB F = true) (Y : Str) :
    F.connecters.find? (fun p => (mk len (e.1 ++ (itemsTxt F items ++ Y))).startsWith p.1) = some e := by
  apply find?_at _ _ j e he
  · simp only [mk_startsWith, isPre_append]
  · intro i hi y hy
    simp only [mk_startsWith]
    match items, hne, hC with
    | .cons 0 a' t ts, _, _ =>
      simpa [itemsTxt, ws, List.append_assoc] using
        hF.conn_order i j hi y e hy he (ws F a' ++ (stxt F t ++ itemsTxt F ts) ++ Y)
    | .cons (b + 1) a' t ts, _, hC =>
      have h := hC (by simp only [connSp, Bool.true_or])
      simp only [surfaceOKB, List.all_eq_true, List.mem_range] at h
      have h2 := h j (List.getElem?_eq_some_iff.mp he).1 i hi
      simp only [hy, he, Bool.not_eq_true'] at h2
      simpa [itemsTxt, ws, List.append_assoc] using
        not_isPre_of_not_compat h2 (ws F b ++ (F.separator ++ (ws F a' ++ (stxt F t ++ itemsTxt F ts))) ++ Y)

/-- `lb ␣ᵃ T`, where the component loop reads `T` up to the closer -/
theorem parseTermSet_spaced (k : SetK) (lb : Str) {rb : Str} (hrb : rb ∈ closers F) (a : Nat) {T : Str} (rest : Str)
    {l : List Term} (hl : l ≠ []) (hns : isPre F.spaceParse T = false)
    (hloop : ∀ fuel, R (F.parseTerms fuel rb (mk len T) []) (l, mk len (rb ++ rest))) :
    ∀ fuel, R (F.parseTermSet fuel k lb rb (mk len (lb ++ (ws F a ++ T))))
      (.setlike k (Terms.ofList (mkSetSem l)), mk len rest)
  | 0 => R_fuel _
  | fuel + 1 => by
    rw [parseTermSet, skipAndSpaces_ws hF len lb a T hns]
    refine (hloop fuel).elim ?_ (R_fuel _)
    simp only [skipAfterSpaces_mk len rb rest (closer_no_space hF hrb rest), nonempty_isEmpty hl, Bool.false_eq_true,
      if_false]
    exact R_ok _

/-- `( ␣ᵃ connecter T`, where the connecter is the first match of its table and the loop reads `T` up to the closer -/
theorem parseCompound_spaced {e : Str × ConnK} (he : e ∈ F.connecters) (hop : e.2 ≠ .operatorUnsupported) (a : Nat)
    {T : Str} (rest : Str)
    (hfind : F.connecters.find? (fun p => (mk len (e.1 ++ T)).startsWith p.1) = some e)
    {l : List Term} (hl : l ≠ []) {t : Term} (hfin : finishT e.2 l = some t)
    (hloop : ∀ fuel, R (F.parseTerms fuel F.compR (mk len T) []) (l, mk len (F.compR ++ rest))) :
    ∀ fuel, R (F.parseCompound fuel (mk len (F.compL ++ (ws F a ++ (e.1 ++ T))))) (t, mk len rest)
  | 0 => R_fuel _
  | fuel + 1 => by
    have hcr : F.compR ∈ closers F := by simp [closers]
    rw [parseCompound, skipAndSpaces_ws hF len F.compL a _
      (not_isPre_of_incompat (hF.connecter (List.mem_map_of_mem he)).2 _)]
    simp only
    rw [hfind]
    simp only [hop, if_false, mk_skip]
    refine (hloop fuel).elim ?_ (R_fuel _)
    simp only [nonempty_isEmpty hl, Bool.false_eq_true, if_false]
    rw [finishCompound_of_finishT F _ l t _ hfin, skipAfterSpaces_mk len F.compR rest (closer_no_space hF hcr rest)]
    exact R_ok _

/-- `< ␣ᵃ S ␣ᵇ copula ␣ᶜ P ␣ᵈ >` for texts `S`, `P` that start like terms and read back as `s`, `p` -/
theorem parseStatement_spaced {e : Str × CopK} (he : e ∈ F.copulaTable) (a b c d : Nat) {S P : Str} {s p : Term}
    (rest : Str) (hS : ∀ X, Starts F (S ++ X)) (hP : ∀ X, Starts F (P ++ X))
    (rS : ∀ fuel X, Stop F X → R (F.parseTerm fuel (mk len (S ++ X))) (s, mk len X))
    (rP : ∀ fuel X, Stop F X → R (F.parseTerm fuel (mk len (P ++ X))) (p, mk len X)) :
    ∀ fuel, R (F.parseStatement fuel (mk len (F.stmtL ++ (ws F a ++ (S ++ (ws F b ++ (e.1 ++ (ws F c ++ (P ++
      (ws F d ++ (F.stmtR ++ rest))))))))))) (e.2.build s p, mk len rest)
  | 0 => R_fuel _
  | fuel + 1 => by
    have hsr : F.stmtR ∈ closers F := by simp [closers]
    have hcop : e.1 ∈ F.copulaTable.map (·.1) := List.mem_map_of_mem he
    have hstop1 : Stop F (ws F b ++ (e.1 ++ (ws F c ++ (P ++ (ws F d ++ (F.stmtR ++ rest)))))) :=
      stop_ws hF b _ (stop_of_copula F _ _ (hF.copulas_eq ▸ hcop))
    have hstop2 : Stop F (ws F d ++ (F.stmtR ++ rest)) :=
      stop_ws hF d _ (stop_terminator (closer_terminator hF hsr) rest)
    rw [parseStatement, skipAndSpaces_ws hF len F.stmtL a _ (starts_no_space hF (hS _))]
    refine (rS fuel _ hstop1).elim ?_ (R_fuel _)
    simp only
    rw [skipSpaces_ws hF len b _ (not_isPre_of_incompat (hF.copula hcop).2.1 _), copula_find hF len he]
    simp only
    rw [mk_skip, skipSpaces_ws hF len c _ (starts_no_space hF (hP _))]
    refine (rP fuel _ hstop2).elim ?_ (R_fuel _)
    simp only [skipAfterSpaces_ws hF len F.stmtR d rest (closer_no_space hF hsr rest)]
    exact R_ok _

mutual
  /-- **the term parser on a spelling**: `parse_term (stxt st ++ rest) = (den st, rest)`, unless the fuel runs out -/
  theorem parse_stxt : ∀ (st : STerm), (connSp st = true → surfaceOKB F = true) → wfS F st = true →
      ∀ (t : Term), den F st = some t → ∀ (fuel : Nat) (rest : Str), Stop F rest →
      R (F.parseTerm fuel (mk len (stxt F st ++ rest))) (t, mk len rest)
    | .atom t0, _, hwf, t, hden, fuel, rest, hst => by
      simp only [wfS, Bool.and_eq_true] at hwf
      simp only [den, Option.some.injEq] at hden
      rw [← hden]
      exact parseTerm_atom hF len t0 hwf.1 hwf.2 rest hst fuel
    | .set ext a first items c, hC, hwf, t, hden, fuel, rest, _ => by
      simp only [wfS, Bool.and_eq_true] at hwf
      obtain ⟨f, l, hdf, hdl, rfl⟩ := den_set hden
      have hrb : F.setR ext ∈ closers F := by cases ext <;> simp [closers, setR]
      have hbody := stxt_starts hF first hwf.1 (itemsTxt F items ++ (ws F c ++ (F.setR ext ++ rest)))
      simp only [stxt, List.append_assoc]
      refine R_succ (g := fun f => F.parseTerm f _) rfl (fun k => dispatch_set hF len ext k _)
        (parseTermSet_spaced hF len _ _ hrb a rest (l := f :: l) (List.cons_ne_nil f l) (starts_no_space hF hbody)
          fun g => ?_) fuel
      exact loop_elem hF len hrb (stxt F first) _ f [] _ hbody
        (fun g' => parse_stxt first (fun h => hC (Bool.or_eq_true_iff.mpr (.inl h))) hwf.1 f hdf g' _
          (items_stop hF items c hrb rest))
        (fun g' => parse_itemsTxt items (fun h => hC (Bool.or_eq_true_iff.mpr (.inr h))) hwf.2 l hdl c (F.setR ext)
          hrb rest ([] ++ [f]) g') g
    | .compound a j items c, hC, hwf, t, hden, fuel, rest, _ => by
      simp only [wfS, Bool.and_eq_true, decide_eq_true_eq, Bool.not_eq_true', beq_eq_false_iff_ne, ne_eq] at hwf
      obtain ⟨⟨⟨hj, hop⟩, hne⟩, hwi⟩ := hwf
      obtain ⟨l, hdl, hfin⟩ := den_compound hden
      have he := connAt_get hj
      have hine : items ≠ .nil := fun h0 => by simp [h0] at hne
      have hl : l ≠ [] := by
        cases items with
        | nil => exact absurd rfl hine
        | cons b' a' t' ts' =>
          obtain ⟨_, _, _, _, rfl⟩ := dens_cons hdl
          simp
      simp only [stxt, List.append_assoc]
      exact R_succ (g := fun f => F.parseTerm f _) rfl (fun k => dispatch_comp hF len k _)
        (parseCompound_spaced hF len (List.mem_of_getElem? he) hop a rest
          (conn_find hF len j _ he a c items hine hC _) hl hfin
          (parse_itemsTxt items (fun h => hC (Bool.or_eq_true_iff.mpr (.inr h))) hwi l hdl c F.compR (by simp [closers])
            rest [])) fuel
    | .stmt a s b j c p d, hC, hwf, t, hden, fuel, rest, _ => by
      simp only [wfS, Bool.and_eq_true, decide_eq_true_eq] at hwf
      obtain ⟨⟨hj, hws⟩, hwp⟩ := hwf
      obtain ⟨s', p', hds, hdp, rfl⟩ := den_stmt hden
      simp only [stxt, List.append_assoc]
      exact R_succ (g := fun f => F.parseTerm f _) rfl (fun k => dispatch_stmt hF len k _)
        (parseStatement_spaced hF len (List.mem_of_getElem? (copAt_get hj)) a b c d rest (stxt_starts hF s hws)
          (stxt_starts hF p hwp)
          (fun g X hX => parse_stxt s (fun h => hC (Bool.or_eq_true_iff.mpr (.inl h))) hws s' hds g X hX)
          (fun g X hX => parse_stxt p (fun h => hC (Bool.or_eq_true_iff.mpr (.inr h))) hwp p' hdp g X hX)) fuel

  theorem parse_itemsTxt : ∀ (items : SItems), (connSps items = true → surfaceOKB F = true) →
      wfSs F items = true → ∀ (l : List Term), dens F items = some l →
      ∀ (c : Nat) (rb : Str), rb ∈ closers F → ∀ (rest : Str) (acc : List Term) (fuel : Nat),
      R (F.parseTerms fuel rb (mk len (itemsTxt F items ++ (ws F c ++ (rb ++ rest)))) acc)
        (acc ++ l, mk len (rb ++ rest))
    | .nil, _, _, l, hd, c, rb, hrb, rest, acc, fuel => by
      simp only [dens, Option.some.injEq] at hd
      rw [← hd]
      simp only [itemsTxt, List.nil_append, List.append_nil]
      exact loop_ws hF len _ acc _ (fun f => loop_end hF len hrb f rest acc) c fuel
    | .cons b a t ts, hC, hwf, l, hd, c, rb, hrb, rest, acc, fuel => by
      simp only [wfSs, Bool.and_eq_true] at hwf
      obtain ⟨t', l', hdt, hdl, rfl⟩ := dens_cons hd
      simp only [itemsTxt, List.append_assoc]
      refine loop_ws hF len _ acc _ (fun f1 => loop_sep hF len _ acc _ (fun f2 =>
        loop_ws hF len _ acc _ (fun f3 =>
          loop_elem hF len hrb (stxt F t) _ t' acc _ (stxt_starts hF t hwf.1 _)
            (fun f4 => parse_stxt t (fun h => hC (Bool.or_eq_true_iff.mpr (.inl h))) hwf.1 t' hdt f4 _
              (items_stop hF ts c hrb rest))
            (fun f4 => by
              have := parse_itemsTxt ts (fun h => hC (Bool.or_eq_true_iff.mpr (.inr h))) hwf.2 l' hdl c rb hrb rest
                (acc ++ [t']) f4
              simpa [List.append_assoc] using this) f3) a f2) f1) b fuel
end

theorem parseTerm_spelling (st : STerm) (hC : connSp st = true → surfaceOKB F = true) (hwf : wfS F st = true)
    (t : Term) (hden : den F st = some t) (rest : Str) (hst : Stop F rest) (fuel : Nat)
    (hfuel : 3 * (stxt F st ++ rest).length + 2 ≤ fuel) :
    F.parseTerm fuel (mk len (stxt F st ++ rest)) = .ok (t, mk len rest) :=
  (parse_stxt hF len st hC hwf t hden fuel rest hst).resolve_left
    ((parseTerm_good F hF.sane.toSane fuel (mk len (stxt F st ++ rest))).2.2 (by simpa [mk, Cur.n] using hfuel))

end

section
variable {F : EFormat} (hS : SurfaceOK F) (len : Nat)
include hS

theorem mrt_items : ∀ (items : SItems), wfSs F items = true → ∀ (l : List Term), dens F items = some l →
      ∀ (c : Nat) (rb : Str), rb ∈ closers F → ∀ (rest : Str) (acc : List Term) (fuel : Nat),
      R (F.parseTerms fuel rb (mk len (itemsTxt F items ++ (ws F c ++ (rb ++ rest)))) acc)
        (acc ++ l, mk len (rb ++ rest)) :=
  fun items => parse_itemsTxt hS.base len items (fun _ => hS.conn_space)

end

/-- under `SurfaceOK` every spelling is admissible -/
theorem parseTerm_stxt {F : EFormat} (hS : SurfaceOK F) (len : Nat) (st : STerm) (hwf : wfS F st = true)
    (t : Term) (hden : den F st = some t) (rest : Str) (hst : Stop F rest) (fuel : Nat)
    (hfuel : 3 * (stxt F st ++ rest).length + 2 ≤ fuel) :
    F.parseTerm fuel (mk len (stxt F st ++ rest)) = .ok (t, mk len rest) :=
  parseTerm_spelling hS.base len st (fun _ => hS.conn_space) hwf t hden rest hst fuel hfuel

end Narsese
