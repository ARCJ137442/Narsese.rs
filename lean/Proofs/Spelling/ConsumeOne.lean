/-
  `consume_one` on spaced items: the stamp with spaces between its tokens (the stamp reader, and the alternative
  that calls it), and `consume_one` in front of a spaced budget and a spaced truth. Also here: the side condition for
  spaced sentence lines (`SurfaceItemsOK`) and the truth / budget a number list denotes (`mkTruth`, `mkBudget`).
-/
import Proofs.Spelling.Numbers
import Proofs.Spelling.Surface
set_option autoImplicit false

namespace Narsese
open EFormat

/-- the number of a fixed stamp, preceded by `b` spaces -/
def stampNum (F : EFormat) (b : Nat) : Stamp → Str
  | .fixed t => ws F b ++ showInt t
  | _ => []

/-- `stampL ␣ᵃ keyword [␣ᵇ number] ␣ᶜ stampR` -/
def sstampTxt (F : EFormat) (st : Stamp) (a b c : Nat) : Str :=
  F.stampL ++ (ws F a ++ (stampKw F st ++ (stampNum F b st ++ (ws F c ++ F.stampR))))

theorem sstampTxt_append (F : EFormat) (st : Stamp) (a b c : Nat) (Y : Str) :
    sstampTxt F st a b c ++ Y =
      F.stampL ++ (ws F a ++ (stampKw F st ++ (stampNum F b st ++ (ws F c ++ (F.stampR ++ Y))))) := by
  simp only [sstampTxt, List.append_assoc]

/-- the formatter writes no space inside a stamp -/
theorem sstampTxt_zero (F : EFormat) (st : Stamp) (hst : st ≠ .eternal) : sstampTxt F st 0 0 0 = F.fmtStamp st := by
  cases st <;> first | exact absurd rfl hst | simp [sstampTxt, stampKw, stampNum, fmtStamp, ws]

/-- what the stamp reader leaves behind -/
def stampEndW (F : EFormat) (len c : Nat) (Y : Str) : Cur :=
  F.skipAfterSpaces (mk len (ws F c ++ (F.stampR ++ Y))) F.stampR

/-- decidable additions to the side conditions for spaced sentence lines -/
def surfaceItemsOKB (F : EFormat) : Bool :=
  headNotIn F.truthL signChars && (F.stampL.isEmpty || incompat F.budgetL F.stampL)

structure SurfaceItemsOK (F : EFormat) : Prop where
  surf : SurfaceOK F
  items : ItemsOK F
  more : surfaceItemsOKB F = true

theorem SurfaceItemsOK.truth_sign {F : EFormat} (h : SurfaceItemsOK F) : headNotIn F.truthL signChars = true := by
  have := h.more
  simp only [surfaceItemsOKB, Bool.and_eq_true] at this
  exact this.1

theorem SurfaceItemsOK.budget_stamp {F : EFormat} (h : SurfaceItemsOK F) (hl : F.stampL ≠ []) :
    incompat F.budgetL F.stampL = true := by
  have := h.more
  simp only [surfaceItemsOKB, Bool.and_eq_true, Bool.or_eq_true, List.isEmpty_iff] at this
  exact this.2.resolve_left hl

def mkTruth : List Num → Option Truth
  | [f] => some (.single f)
  | [f, c] => some (.double f c)
  | _ => none

def mkBudget : List Num → Option Budget
  | [] => some .empty
  | [p] => some (.single p)
  | [p, d] => some (.double p d)
  | [p, d, q] => some (.triple p d q)
  | _ => none

theorem mkTruth_spec {xs : List Num} {tr : Truth} (h : mkTruth xs = some tr) :
    tr.components = xs ∧ xs ≠ [] ∧ xs.length ≤ 2 ∧ tr ≠ .empty := by
  match xs, h with
  | [f], rfl => simp [Truth.components]
  | [f, c], rfl => simp [Truth.components]

theorem mkBudget_spec {xs : List Num} {b : Budget} (h : mkBudget xs = some b) :
    b.components = xs ∧ xs.length ≤ 3 := by
  match xs, h with
  | [], rfl => simp [Budget.components]
  | [p], rfl => simp [Budget.components]
  | [p, d], rfl => simp [Budget.components]
  | [p, d, q], rfl => simp [Budget.components]

theorem mkTruth_components (tr : Truth) (h : tr ≠ .empty) : mkTruth tr.components = some tr := by
  cases tr <;> first | rfl | exact absurd rfl h

theorem mkBudget_components (b : Budget) : mkBudget b.components = some b := by cases b <;> rfl

section
variable {F : EFormat} (hI : ItemsOK F) (len : Nat)
include hI

/-- a stamp's text does not begin with a space: it begins with the opener or, if that is empty, with the keyword -/
theorem sstampTxt_facts (st : Stamp) (hst : st ≠ .eternal) (a b c : Nat) (ha : F.stampL = [] → a = 0) (Y : Str) :
    isPre F.spaceParse (sstampTxt F st a b c ++ Y) = false ∧ sstampTxt F st a b c ++ Y ≠ [] := by
  obtain ⟨hkne, hksp, _, _⟩ := hI.stampKw (stampKw_mem st hst)
  refine ⟨?_, by simp [sstampTxt, hkne]⟩
  simp only [sstampTxt, List.append_assoc]
  by_cases hl : F.stampL = []
  · rw [hl, ha hl]
    exact not_isPre_of_incompat hksp _
  · exact not_isPre_of_incompat (hI.stampL hl).1 _

theorem fmtStamp_ne (st : Stamp) (hst : st ≠ .eternal) : F.fmtStamp st ≠ [] := by
  rw [← sstampTxt_zero F st hst]
  simp [sstampTxt, (hI.stampKw (stampKw_mem st hst)).1]

theorem consumeStamp_spaced (st : Stamp) (hst : st ≠ .eternal) (hwf : wfStamp st = true) (a b c : Nat)
    (Y : Str) (hY : headNotIn (ws F c ++ (F.stampR ++ Y)) signChars = true) :
    F.consumeStamp (mk len (sstampTxt F st a b c ++ Y)) = .ok (st, stampEndW F len c Y) := by
  obtain ⟨h12, h13, h14, h23, h24, h34⟩ := pairwiseB_four hI.split.stamp_pairs
  have hkw : isPre F.spaceParse (stampKw F st ++ (stampNum F b st ++ (ws F c ++ (F.stampR ++ Y)))) = false :=
    not_isPre_of_incompat (hI.stampKw (stampKw_mem st hst)).2.1 _
  unfold consumeStamp
  rw [sstampTxt_append, skipAndSpaces_ws hI.base len F.stampL a _ hkw]
  cases st with
  | eternal => exact absurd rfl hst
  | past =>
    simp only [stampKw, stampNum, List.nil_append, mk_startsWith, isPre_append, not_isPre_of_incompat h12 _,
      Bool.false_eq_true, if_false, if_true, mk_skip, stampEndW]
  | present =>
    simp only [stampKw, stampNum, List.nil_append, mk_startsWith, isPre_append, not_isPre_of_incompat h13 _,
      not_isPre_of_incompat h23 _, Bool.false_eq_true, if_false, if_true, mk_skip, stampEndW]
  | future =>
    simp only [stampKw, stampNum, List.nil_append, mk_startsWith, isPre_append, not_isPre_of_incompat h14 _,
      not_isPre_of_incompat h24 _, not_isPre_of_incompat h34 _, Bool.false_eq_true, if_false, if_true, mk_skip,
      stampEndW]
  | fixed t =>
    simp only [wfStamp, Bool.and_eq_true, decide_eq_true_eq] at hwf
    obtain ⟨hne, hch⟩ := showInt_chars t
    have hns : isPre F.spaceParse (showInt t ++ (ws F c ++ (F.stampR ++ Y))) = false := by
      obtain ⟨ch, cs, hs⟩ := List.exists_cons_of_ne_nil hne
      rw [hs] at hch ⊢
      exact not_isPre_of_head hI.base.sane.space_ne (headNotIn_sign hI.split.sp_sign) (hch ch (by simp)) _
    simp only [stampKw, stampNum, List.append_assoc, mk_startsWith, isPre_append, if_true]
    rw [skipAndSpaces_ws hI.base len F.stampFixed b _ hns,
      parseIsizeAt_showInt len t hwf.1 hwf.2 _ (headNotIn_sign hY)]
    simp only [stampEndW]

theorem consumeOne_stampW (m : Mid) (t : Term) (p : Punct) (hm : m.term = some t) (hp : m.punct = some p)
    (hs : m.stamp = none) (st : Stamp) (hst : st ≠ .eternal) (hwf : wfStamp st = true) (a b c : Nat)
    (ha : F.stampL = [] → a = 0) (hbs : a ≠ 0 → incompat F.budgetL F.stampL = true)
    (Y : Str) (hY : headNotIn (ws F c ++ (F.stampR ++ Y)) signChars = true) :
    F.consumeOne (mk len (sstampTxt F st a b c ++ Y)) m = .ok (stampEndW F len c Y, { m with stamp := some st }) := by
  obtain ⟨hkne, hksp, hkb, _⟩ := hI.stampKw (stampKw_mem st hst)
  have e := sstampTxt_append F st a b c Y
  have hns := (sstampTxt_facts hI st hst a b c ha Y).1
  have hnb : isPre F.budgetL (sstampTxt F st a b c ++ Y) = false := by
    rw [e]
    by_cases h0 : a = 0
    · subst h0
      simpa [ws, List.append_assoc] using
        not_isPre_of_incompat hkb (stampNum F b st ++ (ws F c ++ (F.stampR ++ Y)))
    · exact not_isPre_of_incompat (hbs h0) _
  unfold consumeOne
  simp only [mk_startsWith, hns, Bool.false_eq_true, if_false]
  refine (alt_skip ?_).trans ?_
  · simp [hnb]
  refine (alt_skip ?_).trans ?_
  · simp [hm]
  refine (alt_skip ?_).trans ?_
  · simp [hp]
  refine alt_hit ?_ ?_
  · simp [hs, e, isPre_append]
  · rw [consumeStamp_spaced hI len st hst hwf a b c Y hY]; rfl

theorem consumeOne_budgetW (m : Mid) (hm : m.budget = none) (e : Nat) (items : List SNum)
    (hok : ∀ s ∈ items, s.x.ok = true) (b : Budget) (hb : mkBudget (items.map (·.x)) = some b) (Y : Str) :
    F.consumeOne (mk len (sbudgetTxt F e items ++ Y)) m = .ok (mk len Y, { m with budget := some b }) := by
  obtain ⟨hcomp, hlen⟩ := mkBudget_spec hb
  unfold consumeOne
  simp only [mk_startsWith, (sbudgetTxt_facts hI e items Y).1, Bool.false_eq_true, if_false]
  refine alt_hit ?_ ?_
  · simp [hm, sbudgetTxt, isPre_append]
  · rw [consumeBudget_spaced hI len e items (by simpa using hlen) hok Y b hcomp]; rfl

theorem consumeOne_truthW (m : Mid) (t : Term) (p : Punct) (hm : m.term = some t) (hp : m.punct = some p)
    (htr : m.truth = none) (items : List SNum) (hok : ∀ s ∈ items, s.x.ok = true) (tr : Truth)
    (hmk : mkTruth (items.map (·.x)) = some tr) (Y : Str) :
    F.consumeOne (mk len (struthTxt F items ++ Y)) m = .ok (mk len Y, { m with truth := some tr }) := by
  obtain ⟨hcomp, hne0, hlen, _⟩ := mkTruth_spec hmk
  have hine : items ≠ [] := by intro h0; rw [h0] at hne0; simp at hne0
  have e : struthTxt F items ++ Y =
      F.truthL ++ (joinWith F.truthSep (items.map (SNum.txt F)) ++ F.truthR ++ Y) := by
    simp [struthTxt, List.append_assoc]
  have hns := (struthTxt_facts hI items Y).1
  have hnb : isPre F.budgetL (struthTxt F items ++ Y) = false := by
    rw [e]; exact not_isPre_of_incompat hI.split.budget_truth _
  -- whether the stamp alternative is skipped or fails on the spot, the truth alternative comes next and fires
  have hfin : alt (fun now => now.startsWith F.truthL && m.truth.isNone)
      (liftStep (F.consumeTruth (mk len (struthTxt F items ++ Y))) (fun t => { m with truth := some t }))
      (fun now => raise now) (mk len (struthTxt F items ++ Y)) = .ok (mk len Y, { m with truth := some tr }) := by
    refine alt_hit ?_ ?_
    · simp [htr, e, isPre_append]
    · rw [consumeTruth_spaced hI len items hine (by simpa using hlen) hok Y tr hcomp]; rfl
  unfold consumeOne
  simp only [mk_startsWith, hns, Bool.false_eq_true, if_false]
  refine (alt_skip ?_).trans ?_
  · simp [hnb]
  refine (alt_skip ?_).trans ?_
  · simp [hm]
  refine (alt_skip ?_).trans ?_
  · simp [hp]
  by_cases hg : ((mk len (struthTxt F items ++ Y)).startsWith F.stampL && m.stamp.isNone) = true
  · have hl : F.stampL = [] := Decidable.byContradiction fun hl => by
      simp [e, not_isPre_of_incompat (hI.stampL hl).2 _] at hg
    refine (alt_err (e := mk len (struthTxt F items ++ Y)) hg ?_).trans hfin
    rw [e, consumeStamp_on_truth hI len hl]; rfl
  · exact (alt_skip (Bool.eq_false_iff.mpr hg)).trans hfin

end

end Narsese
