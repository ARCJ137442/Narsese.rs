/-
  Runs of spaces (`ws`): the space skippers and the component loop pass over them.
-/
import Proofs.Spelling.TermParts
set_option autoImplicit false

namespace Narsese
open EFormat

def ws (F : EFormat) : Nat → Str
  | 0 => []
  | n + 1 => F.spaceParse ++ ws F n

theorem ws_length (F : EFormat) (hsp : F.spaceParse ≠ []) (n : Nat) : n ≤ (ws F n).length := by
  induction n with
  | zero => exact Nat.zero_le _
  | succ n ih =>
    have := ne_nil_length hsp
    simp only [ws, List.length_append]
    omega

theorem ws_add (F : EFormat) (a b : Nat) : ws F a ++ ws F b = ws F (a + b) := by
  induction a with
  | zero => simp [ws]
  | succ a ih => simp only [ws, List.append_assoc, ih, Nat.succ_add]

/-- one unit of fuel for every space of the run is enough -/
theorem skipSpAux_ws (F : EFormat) {s : Str} (h : isPre F.spaceParse s = false) :
    ∀ (n k : Nat), n ≤ k → skipSpAux F.spaceParse k (ws F n ++ s) = s
  | 0, k, _ => skipSpAux_noprefix _ _ k h
  | n + 1, k + 1, hk => by
    rw [ws, List.append_assoc, skipSpAux, strip_append]
    exact skipSpAux_ws F h n k (by omega)

section
variable {F : EFormat} (hF : FormatOK F) (len : Nat)
include hF

theorem skipSpaces_ws (n : Nat) (s : Str) (h : isPre F.spaceParse s = false) :
    F.skipSpaces (mk len (ws F n ++ s)) = mk len s := by
  have hn : n ≤ (ws F n ++ s).length := by
    have := ws_length F hF.sane.space_ne n
    rw [List.length_append]; omega
  simp only [skipSpaces, mk, beq_self_eq_true, if_true, skipSpAux_ws F h n _ hn]

theorem ws_no_space_after (n : Nat) (s : Str) (h : isPre F.spaceParse s = false) :
    (n = 0 → isPre F.spaceParse (ws F n ++ s) = false) := by
  intro h0
  subst h0
  simpa [ws] using h

theorem skipAndSpaces_ws (k : Str) (n : Nat) (s : Str) (h : isPre F.spaceParse s = false) :
    F.skipAndSpaces (mk len (k ++ (ws F n ++ s))) k = mk len s := by
  simp only [skipAndSpaces, mk_skip, skipSpaces_ws hF len n s h]

theorem skipAfterSpaces_ws (k : Str) (n : Nat) (s : Str) (h : isPre F.spaceParse (k ++ s) = false) :
    F.skipAfterSpaces (mk len (ws F n ++ (k ++ s))) k = mk len s := by
  simp only [skipAfterSpaces, skipSpaces_ws hF len n _ h, mk_skip]

theorem stop_ws (n : Nat) (Y : Str) (hY : Stop F Y) : Stop F (ws F n ++ Y) := by
  cases n with
  | zero => simpa [ws] using hY
  | succ n =>
    simp only [ws, List.append_assoc]
    exact stop_terminator (hF.terminator (x := F.spaceParse) (by simp)) _

theorem loop_ws {rb : Str} (Y : Str) (acc : List Term) (res : List Term × Cur)
    (cont : ∀ fuel', R (F.parseTerms fuel' rb (mk len Y) acc) res) :
    ∀ (n fuel : Nat), R (F.parseTerms fuel rb (mk len (ws F n ++ Y)) acc) res
  | 0, fuel => by simpa [ws] using cont fuel
  | n + 1, 0 => R_fuel _
  | n + 1, fuel + 1 => by
    have hc := nonempty_isEmpty (List.append_ne_nil_of_left_ne_nil hF.sane.space_ne (ws F n ++ Y))
    simp only [ws, List.append_assoc]
    unfold parseTerms
    simp only [mk_canConsume, hc, mk_startsWith, isPre_append, Bool.not_false, if_true, mk_skip]
    exact loop_ws Y acc res cont n fuel

theorem loop_sep {rb : Str} (Y : Str) (acc : List Term) (res : List Term × Cur)
    (cont : ∀ fuel', R (F.parseTerms fuel' rb (mk len Y) acc) res) (fuel : Nat) :
    R (F.parseTerms fuel rb (mk len (F.separator ++ Y)) acc) res := by
  cases fuel with
  | zero => exact R_fuel _
  | succ fuel =>
    obtain ⟨hsne, _⟩ := terminator_parts (hF.terminator (x := F.separator) (by simp))
    have e1 : isPre F.spaceParse (F.separator ++ Y) = false := not_isPre_of_incompat hF.split.sp_sep Y
    have hc := nonempty_isEmpty (List.append_ne_nil_of_left_ne_nil hsne Y)
    unfold parseTerms
    simp only [mk_canConsume, hc, mk_startsWith, e1, isPre_append, Bool.not_false, Bool.false_eq_true, if_false,
      if_true, mk_skip]
    exact cont fuel

end

end Narsese
