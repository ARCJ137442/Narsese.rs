/-
  The enum term parser on pieces of formatter text, in fuel-relative form (`R`: correct unless the fuel ran out):
  `parse_term` on the text of an atom (decimal numbers scan as names, no opener matches, the printed prefix is the
  first match of the ordered prefix table); the dispatch on the compound and the statement opener; a printed copula is
  the first match of its table; the component loop (`parse_compound_terms`) at a closing bracket and in front of a
  component.
-/
import Proofs.Spelling.FormatFacts
set_option autoImplicit false

namespace Narsese
open EFormat

/-- "correct unless the fuel ran out" — fuel sufficiency is proved separately (`parseTerm_good`) -/
def R {α : Type} (r : PRes α) (x : α) : Prop := r = .fuel ∨ r = .ok x

theorem R_fuel {α : Type} (x : α) : R (PRes.fuel : PRes α) x := .inl rfl
theorem R_ok {α : Type} (x : α) : R (PRes.ok x) x := .inr rfl

/-- a step on a sub-result that is correct unless the fuel ran out: `h.elim` abstracts the sub-result in the goal;
what is left is the step on the `ok` value, and `R_fuel _` where the step passes `fuel` on -/
@[elab_as_elim]
theorem R.elim {α : Type} {motive : PRes α → Prop} {r : PRes α} {x : α} (h : R r x) (ok : motive (.ok x))
    (fuel : motive .fuel) : motive r := by
  rcases h with rfl | rfl
  · exact fuel
  · exact ok

/-- a step of a loop that uses one unit of fuel -/
theorem R_succ {α : Type} {g h : Nat → PRes α} {x : α} (h0 : g 0 = .fuel) (hs : ∀ k, g (k + 1) = h k)
    (cont : ∀ k, R (h k) x) : ∀ f, R (g f) x
  | 0 => .inl h0
  | k + 1 => hs k ▸ cont k

theorem showNat_scan {F : EFormat} (hF : FormatOK F) (n : Nat) (rest : Str) (hst : Stop F rest) :
    F.scanName (showNat n ++ rest) = (showNat n, rest) := by
  refine scanName_app F _ rest (fun c hc => ?_) (fun s hs cop hcop => ?_) hst
  · obtain ⟨d, hd, rfl⟩ := showNat_chars n c hc
    exact hF.digits _ (digit_mem d hd)
  · -- a suffix of the digits begins with a digit, a copula does not
    obtain ⟨c, cs, rfl, hc⟩ := mem_sufs hs
    obtain ⟨d, hd, rfl⟩ := showNat_chars n c hc
    obtain ⟨hne, _, hhead⟩ := hF.copula (hF.copulas_eq ▸ hcop)
    obtain ⟨y, ys, rfl⟩ := List.exists_cons_of_ne_nil hne
    have hy : y ≠ digitChar d :=
      ne_of_test (p := digitChars.contains) (head_all_not.mp hhead) (by simpa using digit_mem d hd) y rfl
    simp [compat, isPre, strip, hy, Ne.symm hy]

theorem skip_lit (len : Nat) (k r : Str) :
    ({ rest := k ++ r, over := 0, len := len } : Cur).skip k = { rest := r, over := 0, len := len } :=
  mk_skip len k r

/-- the atom prefix the formatter wrote is found in the ordered table: the six non-empty prefixes are pairwise
incompatible, the empty word prefix comes last -/
theorem atomHead_find {F : EFormat} (hF : FormatOK F) (len : Nat) {e : Str × AtomHead} (he : e ∈ F.atomHeads.take 6)
    (Y : Str) : F.atomHeads.find? (fun p => (mk len (e.1 ++ Y)).startsWith p.1) = some e := by
  have h6 : ((F.atomHeads.take 6).map (·.1)).Pairwise (fun a b => incompat a b = true) :=
    pairwiseB_iff.mp hF.split.prefix_pairs
  simp only [mk_startsWith]
  rw [← List.take_append_drop 6 F.atomHeads, List.find?_append, find?_of_incompat (·.1) h6 he Y]
  rfl

theorem parseTerm_atom {F : EFormat} (hF : FormatOK F) (len : Nat) (t : Term) (ha : isAtomic t = true)
    (ht : wfT F t = true) (rest : Str) (hst : Stop F rest) :
    ∀ fuel, R (F.parseTerm fuel (mk len (F.fmtTerm t ++ rest))) (t, mk len rest)
  | 0 => R_fuel _
  | fuel + 1 => by
    refine .inr ?_
    have hno : ∀ o ∈ openers F, isPre o (F.fmtTerm t ++ rest) = false := fun _ ho =>
      (fmtTerm_startsIn hF t ht (opening_prefixes F t ha) rest).not_isPre (hF.opener ho).1 (hF.opener ho).2.1
        (hF.opener ho).2.2
    have h1 := hno F.extSetL (by simp [openers])
    have h2 := hno F.intSetL (by simp [openers])
    have h3 := hno F.compL (by simp [openers])
    have h4 := hno F.stmtL (by simp [openers])
    unfold parseTerm
    simp only [mk_startsWith, h1, h2, h3, h4, Bool.false_eq_true, if_false]
    have named : ∀ (k : AtomK) (n : Str), nameOK F n = true → (F.atomPrefix k, .named k) ∈ F.atomHeads.take 6 →
        F.parseAtom (mk len (F.atomPrefix k ++ n ++ rest)) = .ok (.atom k n, mk len rest) := by
      intro k n hn he
      rw [List.append_assoc, parseAtom, atomHead_find hF len he]
      simp only [mk_skip]
      simp [mk, nameOK_scan F n rest hn hst, nameOK_ne hn]
    cases t with
    | atom k n =>
      simp only [wfT] at ht
      cases k with
      | word =>
        -- none of the six prefixes matches a well-formed name, so the empty word prefix is reached
        have hn : (F.atomHeads.take 6).find? (fun p => (mk len (n ++ rest)).startsWith p.1) = none := by
          simp only [nameOK, Bool.and_eq_true, List.all_eq_true, Bool.not_eq_true'] at ht
          refine List.find?_eq_none.mpr fun p hp => ?_
          simp [not_isPre_of_not_compat (ht.2 p.1 (List.mem_map_of_mem hp)) rest]
        rw [fmtTerm, atomPrefix, hF.preWord, List.nil_append, parseAtom, ← List.take_append_drop 6 F.atomHeads,
          List.find?_append, hn]
        simp [atomHeads, hF.preWord, Cur.startsWith, isPre, strip, mk, Cur.skip, Cur.skipN,
          nameOK_scan F n rest ht hst, nameOK_ne ht]
      | ivar | dvar | qvar | op => exact named _ n ht (by simp [atomHeads, atomPrefix])
    | placeholder =>
      have : F.scanName rest = ([], rest) := hst
      rw [fmtTerm, parseAtom, atomHead_find hF len (e := (F.prePlaceholder, .placeholder)) (by simp [atomHeads])]
      simp only [mk_skip]
      simp [mk, this]
    | interval n =>
      simp only [wfT, decide_eq_true_eq] at ht
      obtain ⟨_, _, c, r, hs, _⟩ := showNat_spec n
      have hne : showNat n ≠ [] := by rw [hs]; simp
      rw [fmtTerm, List.append_assoc, parseAtom,
        atomHead_find hF len (e := (F.preInterval, .interval)) (by simp [atomHeads])]
      simp only [mk_skip]
      simp [mk, showNat_scan hF n rest hst, hne, parseUsize_showNat n ht]
    | _ => simp [isAtomic] at ha

/-- every component preceded by `separator ++ space` -/
def tailTxt (F : EFormat) : List Str → Str
  | [] => []
  | s :: ss => F.separator ++ F.spaceTerms ++ s ++ tailTxt F ss

theorem joinComponents_cons (F : EFormat) (s : Str) (ss : List Str) :
    F.joinComponents (s :: ss) = s ++ tailTxt F ss := by
  induction ss generalizing s with
  | nil => simp [joinComponents, joinWith, tailTxt]
  | cons x xs ih =>
    have := ih x
    simp only [joinComponents] at this ⊢
    simp only [joinWith, tailTxt, this, List.append_assoc]

section
variable {F : EFormat} (len : Nat)

theorem skipAndSpaces_mk (k s : Str) (h : isPre F.spaceParse s = false) :
    F.skipAndSpaces (mk len (k ++ s)) k = mk len s := by
  simp only [skipAndSpaces, mk_skip, skipSpaces_noprefix F len s h]

theorem skipAfterSpaces_mk (k s : Str) (h : isPre F.spaceParse (k ++ s) = false) :
    F.skipAfterSpaces (mk len (k ++ s)) k = mk len s := by
  simp only [skipAfterSpaces, skipSpaces_noprefix F len _ h, mk_skip]

end

section
variable {F : EFormat} (hF : FormatOK F) (len : Nat)
include hF

theorem dispatch_comp (fuel : Nat) (Y : Str) :
    F.parseTerm (fuel + 1) (mk len (F.compL ++ Y)) = F.parseCompound fuel (mk len (F.compL ++ Y)) := by
  obtain ⟨-, h13, -, h23, -⟩ := pairwiseB_four hF.split.opener_pairs
  rw [parseTerm]
  simp only [mk_startsWith, isPre_append, not_isPre_of_incompat h13 Y, not_isPre_of_incompat h23 Y, Bool.false_eq_true,
    if_false, if_true]

theorem dispatch_stmt (fuel : Nat) (Y : Str) :
    F.parseTerm (fuel + 1) (mk len (F.stmtL ++ Y)) = F.parseStatement fuel (mk len (F.stmtL ++ Y)) := by
  obtain ⟨-, -, h14, -, h24, h34⟩ := pairwiseB_four hF.split.opener_pairs
  rw [parseTerm]
  simp only [mk_startsWith, isPre_append, not_isPre_of_incompat h14 Y, not_isPre_of_incompat h24 Y,
    not_isPre_of_incompat h34 Y, Bool.false_eq_true, if_false, if_true]

theorem copula_find {e : Str × CopK} (he : e ∈ F.copulaTable) (Y : Str) :
    F.copulaTable.find? (fun p => (mk len (e.1 ++ Y)).startsWith p.1) = some e := by
  simp only [mk_startsWith]
  exact find?_of_incompat (·.1) (pairwiseB_iff.mp hF.split.copula_pairs) he Y

theorem closer_no_space {rb : Str} (hrb : rb ∈ closers F) (Y : Str) : isPre F.spaceParse (rb ++ Y) = false :=
  not_isPre_of_incompat (hF.closer hrb).1 Y

theorem starts_no_space {s : Str} (h : Starts F s) : isPre F.spaceParse s = false :=
  terminator_not_pre (hF.terminator (x := F.spaceParse) (by simp)) h

theorem loop_end {rb : Str} (hrb : rb ∈ closers F) (fuel : Nat) (rest : Str) (acc : List Term) :
    R (F.parseTerms fuel rb (mk len (rb ++ rest)) acc) (acc, mk len (rb ++ rest)) := by
  cases fuel with
  | zero => exact R_fuel _
  | succ fuel =>
    obtain ⟨hne, _⟩ := terminator_parts (closer_terminator hF hrb)
    have e2 : isPre F.separator (rb ++ rest) = false := not_isPre_of_incompat (hF.closer hrb).2 rest
    have hc := nonempty_isEmpty (List.append_ne_nil_of_left_ne_nil hne rest)
    unfold parseTerms
    simp only [mk_canConsume, hc, mk_startsWith, closer_no_space hF hrb rest, e2, isPre_append]
    exact R_ok _

theorem loop_elem {rb : Str} (hrb : rb ∈ closers F) (txt X : Str) (t : Term) (acc : List Term)
    (res : List Term × Cur)
    (hstart : Starts F (txt ++ X))
    (hpt : ∀ fuel', R (F.parseTerm fuel' (mk len (txt ++ X))) (t, mk len X))
    (cont : ∀ fuel', R (F.parseTerms fuel' rb (mk len X) (acc ++ [t])) res) (fuel : Nat) :
    R (F.parseTerms fuel rb (mk len (txt ++ X)) acc) res := by
  cases fuel with
  | zero => exact R_fuel _
  | succ fuel =>
    have e2 : isPre F.separator (txt ++ X) = false :=
      terminator_not_pre (hF.terminator (x := F.separator) (by simp)) hstart
    have e3 : isPre rb (txt ++ X) = false := terminator_not_pre (closer_terminator hF hrb) hstart
    unfold parseTerms
    simp only [mk_canConsume, nonempty_isEmpty (hstart.ne_nil hF), mk_startsWith, starts_no_space hF hstart, e2, e3]
    exact (hpt fuel).elim (cont fuel) (R_fuel _)

end

end Narsese
