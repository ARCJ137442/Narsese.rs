/-
  Bracketed number lists with spaces anywhere between the tokens: the number-list loop reads the numbers back,
  unless the fuel runs out (`parseFloats_adv` shows that it does not, with the fuel the readers supply); what the
  common reader of truth and budget (`readItem`) returns on a spaced number list.
-/
import Proofs.Spelling.Spaces
import Proofs.Spelling.Sentence
set_option autoImplicit false

namespace Narsese
open EFormat

/-- a number with spaces before and after it -/
structure SNum where
  pre : Nat
  x : Num
  post : Nat

def SNum.txt (F : EFormat) (s : SNum) : Str := ws F s.pre ++ (s.x.text ++ ws F s.post)

/-- the inside of the brackets: the numbers joined by the separator, or just spaces when there is none -/
def snumsTxt (F : EFormat) (sep : Str) (e : Nat) (items : List SNum) : Str :=
  if items.isEmpty then ws F e else joinWith sep (items.map (SNum.txt F))

section
variable {F : EFormat} (len : Nat) {N : Nat} {sep rb : Str} (hL : ListOK F sep rb) {acc : List Num} (hacc : acc.length < N)
  {res : List Num × Cur}
include hL hacc

theorem parseFloats_ws {Z buf : Str} (cont : ∀ f, R (F.parseFloats N sep rb f (mk len Z) buf acc) res) :
    ∀ (n f : Nat), R (F.parseFloats N sep rb f (mk len (ws F n ++ Z)) buf acc) res
  | 0 => cont
  | n + 1 => by
    simp only [ws, List.append_assoc]
    exact R_succ rfl (fun k => parseFloats_space len N hL k _ buf acc hacc) (parseFloats_ws cont n)

theorem parseFloats_digits {Z : Str} : ∀ (ds buf : Str), (∀ c ∈ ds, isDigit c = true ∨ c = '.') →
    (∀ f, R (F.parseFloats N sep rb f (mk len Z) (buf ++ ds) acc) res) →
    ∀ f, R (F.parseFloats N sep rb f (mk len (ds ++ Z)) buf acc) res
  | [], buf, _, cont => by simpa using cont
  | d :: ds, buf, hds, cont => by
    have hd := hds d (by simp)
    refine R_succ rfl (fun k => ?_)
      (parseFloats_digits ds (buf ++ [d]) (fun c hc => hds c (by simp [hc])) (by simpa using cont))
    rw [List.cons_append, parseFloats_step len N sep rb k rfl buf acc hacc,
      if_neg (by simp [numChar_not_pre _ hL.sp_ne hL.sp_num d _ hd]), if_pos (by rcases hd with h | h <;> simp [h])]

theorem parseFloats_snum (s : SNum) (hx : s.x.ok = true) {Z : Str}
    (cont : ∀ f, R (F.parseFloats N sep rb f (mk len Z) s.x.text acc) res) :
    ∀ f, R (F.parseFloats N sep rb f (mk len (SNum.txt F s ++ Z)) [] acc) res := by
  simp only [SNum.txt, List.append_assoc]
  exact parseFloats_ws len hL hacc (parseFloats_digits len hL hacc s.x.text [] (num_chars s.x hx).2
    (parseFloats_ws len hL hacc cont s.post)) s.pre

end

theorem parseFloats_slist {F : EFormat} (len : Nat) (N : Nat) (sep rb : Str) (hL : ListOK F sep rb) (Y : Str) :
    ∀ (items : List SNum), items ≠ [] → (∀ s ∈ items, s.x.ok = true) → ∀ (acc : List Num),
      acc.length + items.length ≤ N → ∀ f,
      R (F.parseFloats N sep rb f (mk len (joinWith sep (items.map (SNum.txt F)) ++ (rb ++ Y))) [] acc)
        (acc ++ items.map (·.x), mk len (rb ++ Y))
  | [], h, _, _, _ => absurd rfl h
  | [s], _, hok, acc, hlen => by
    have hacc : acc.length < N := by simp at hlen; omega
    have hx := hok s (by simp)
    refine parseFloats_snum len hL hacc s hx (R_succ rfl (fun k => parseFloats_close len N hL k Y _ acc hacc) fun _ => ?_)
    rw [readNum_ok s.x hx]
    exact R_ok _
  | s :: s2 :: r, _, hok, acc, hlen => by
    have hacc : acc.length < N := by simp at hlen; omega
    have hx := hok s (by simp)
    have ih := parseFloats_slist len N sep rb hL Y (s2 :: r) (by simp) (fun z hz => hok z (by simp [hz])) (acc ++ [s.x])
      (by simp at hlen ⊢; omega)
    simp only [List.map_cons, joinWith, List.append_assoc] at ih ⊢
    exact parseFloats_snum len hL hacc s hx (R_succ rfl (fun k => parseFloats_sep len N hL k _ s.x hx acc hacc) ih)

section
variable {F : EFormat} (len : Nat)

theorem parseFloats_sempty (N : Nat) (hN : 0 < N) (sep rb : Str) (hL : ListOK F sep rb) (e : Nat) (Y : Str) (k : Nat)
    (hk : e + 1 ≤ k) :
    F.parseFloats N sep rb k (mk len (ws F e ++ (rb ++ Y))) [] [] = .ok ([], mk len (rb ++ Y)) := by
  obtain ⟨k, rfl⟩ : ∃ k', k = k' + 1 := ⟨k - 1, by omega⟩
  induction e generalizing k with
  | zero => rw [ws, List.nil_append, parseFloats_close len N hL k Y [] [] hN, readNum_nil]
  | succ e ih =>
    obtain ⟨k, rfl⟩ : ∃ k', k = k' + 1 := ⟨k - 1, by omega⟩
    rw [ws, List.append_assoc, parseFloats_space len N hL _ _ [] [] hN]
    exact ih k (by omega)

end

section
variable {F : EFormat} (hF : FormatOK F) (len : Nat)

theorem joinWith_first_pre (sep : Str) (s : SNum) (r : List SNum) :
    joinWith sep ((s :: r).map (SNum.txt F)) =
      ws F s.pre ++ joinWith sep (({ s with pre := 0 } :: r).map (SNum.txt F)) := by
  cases r with
  | nil => simp [joinWith, SNum.txt, ws]
  | cons y r' => simp [joinWith, SNum.txt, ws, List.append_assoc]

include hF in
/-- **the reader on a spaced number list**: the opener is skipped together with the spaces behind it (the loop then
starts at the closer or at the first digit), the loop reads the numbers, printed numbers are in range -/
theorem readItem_spaced {α : Type} (N : Nat) (hN : 0 < N) (lb sep rb : Str) (hL : ListOK F sep rb) (build : List Num → α)
    (e : Nat) (items : List SNum) (hok : ∀ s ∈ items, s.x.ok = true) (hlen : items.length ≤ N) (Y : Str) :
    F.readItem N lb sep rb build (mk len (lb ++ (snumsTxt F sep e items ++ (rb ++ Y)))) =
      .ok (build (items.map (·.x)), mk len Y) := by
  -- behind the opener: `n` spaces, then the text `T` on which the loop starts
  obtain ⟨n, T, hT, hns, hR⟩ : ∃ n T, snumsTxt F sep e items ++ (rb ++ Y) = ws F n ++ T ∧ isPre F.spaceParse T = false ∧
      ∀ f, R (F.parseFloats N sep rb f (mk len T) [] []) (items.map (·.x), mk len (rb ++ Y)) := by
    cases items with
    | nil =>
      refine ⟨e, rb ++ Y, rfl, not_isPre_of_incompat hL.rb_sp Y, R_succ rfl (fun k => ?_) fun _ => R_ok _⟩
      rw [parseFloats_close len N hL k Y [] [] hN, readNum_nil]
      rfl
    | cons s r =>
      refine ⟨s.pre, _, by rw [snumsTxt, if_neg (by simp), joinWith_first_pre, List.append_assoc], ?_, ?_⟩
      · have := hL.num_no_space s.x (hok s (by simp))
        cases r <;> simp [joinWith, SNum.txt, ws, List.append_assoc, this]
      · refine parseFloats_slist len N sep rb hL Y _ (by simp) (fun z hz => ?_) [] (by simpa using hlen)
        simp only [List.mem_cons] at hz
        rcases hz with rfl | hz
        · exact hok s (by simp)
        · exact hok z (by simp [hz])
  have hin : (items.map (·.x)).all Num.in01 = true := by
    simp only [List.all_map, List.all_eq_true, Function.comp_apply]
    exact fun s hs => in01_of_ok (hok s hs)
  unfold readItem
  rw [hT, skipAndSpaces_ws hF len lb n T hns]
  -- the fuel the reader supplies is enough
  rw [(hR _).resolve_left ((parseFloats_adv F hL.sp_ne N sep rb hL.sep_ne _ (mk len T) [] []).ne_fuel (Nat.le_refl _)),
    PRes.bind, if_pos hin, skipAfterSpaces_mk len rb Y (not_isPre_of_incompat hL.rb_sp Y)]

end

section
variable {F : EFormat} (hI : ItemsOK F) (len : Nat)
include hI

/-- text of a spaced, non-empty truth -/
def struthTxt (F : EFormat) (items : List SNum) : Str :=
  F.truthL ++ (joinWith F.truthSep (items.map (SNum.txt F)) ++ F.truthR)

theorem consumeTruth_spaced (items : List SNum) (hne : items ≠ []) (hlen : items.length ≤ 2)
    (hok : ∀ s ∈ items, s.x.ok = true) (Y : Str) (tr : Truth) (htr : tr.components = items.map (·.x)) :
    F.consumeTruth (mk len (struthTxt F items ++ Y)) = .ok (tr, mk len Y) := by
  have := readItem_spaced hI.base len 2 (by decide) F.truthL _ _ hI.truthList.1 Truth.ofList 0 items hok hlen Y
  rw [snumsTxt, if_neg (by simpa using hne), ← htr, Truth.ofList_components] at this
  rw [consumeTruth_eq, struthTxt, List.append_assoc, List.append_assoc, this]

/-- text of a spaced budget (possibly empty: just `e` spaces between the brackets) -/
def sbudgetTxt (F : EFormat) (e : Nat) (items : List SNum) : Str :=
  F.budgetL ++ (snumsTxt F F.budgetSep e items ++ F.budgetR)

theorem consumeBudget_spaced (e : Nat) (items : List SNum) (hlen : items.length ≤ 3)
    (hok : ∀ s ∈ items, s.x.ok = true) (Y : Str) (b : Budget) (hb : b.components = items.map (·.x)) :
    F.consumeBudget (mk len (sbudgetTxt F e items ++ Y)) = .ok (b, mk len Y) := by
  rw [consumeBudget_eq, sbudgetTxt, List.append_assoc, List.append_assoc,
    readItem_spaced hI.base len 3 (by decide) F.budgetL _ _ hI.budgetList.1 Budget.ofList e items hok hlen Y, ← hb,
    Budget.ofList_components]

theorem struthTxt_facts (items : List SNum) (Y : Str) :
    isPre F.spaceParse (struthTxt F items ++ Y) = false ∧ struthTxt F items ++ Y ≠ [] := by
  obtain ⟨_, hne, hsp⟩ := hI.truthList
  refine ⟨?_, ?_⟩
  · simp only [struthTxt, List.append_assoc]
    exact not_isPre_of_incompat hsp _
  · simp [struthTxt, hne]

theorem sbudgetTxt_facts (e : Nat) (items : List SNum) (Y : Str) :
    isPre F.spaceParse (sbudgetTxt F e items ++ Y) = false ∧ sbudgetTxt F e items ++ Y ≠ [] := by
  obtain ⟨_, hne, hsp⟩ := hI.budgetList
  refine ⟨?_, ?_⟩
  · simp only [sbudgetTxt, List.append_assoc]
    exact not_isPre_of_incompat hsp _
  · simp [sbudgetTxt, hne]

end

end Narsese
