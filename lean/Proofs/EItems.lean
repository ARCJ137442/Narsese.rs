/-
  `consume_truth` and `consume_budget` said once: read a number list, check the range, pick the variant by the
  number of items. Everything else about the two readers (totality, ranges, round trips) starts from here.
  Likewise `transform_mid_result`: an error without a term, otherwise the value the other slots select.
-/
import Proofs.Sat
import Props.C13
import NarseseModel.EDoors
set_option autoImplicit false

namespace Narsese
open EFormat

def Truth.ofList (xs : List Num) : Truth := .ofG (.ofList xs)
def Budget.ofList (xs : List Num) : Budget := .ofG (.ofList xs)

/-- a bracketed number list, read as `consume_truth` and `consume_budget` both do: skip the opener `lb`, read at
most `N` numbers, check their range, build the value, skip the closer `rb` -/
def EFormat.readItem {α : Type} (F : EFormat) (N : Nat) (lb sep rb : Str) (mk : List Num → α) (c : Cur) : PRes (α × Cur) :=
  (F.parseFloats N sep rb ((F.skipAndSpaces c lb).rest.length + 1) (F.skipAndSpaces c lb) [] []).bind fun p =>
    if p.1.all Num.in01 then .ok (mk p.1, F.skipAfterSpaces p.2 rb) else raise p.2

theorem validate_ok {α : Type} (valid : α → Bool) (x : α) (h : valid x = true) : validate valid x = .ok x := by
  simp [validate, h]

theorem consumeTruth_eq (F : EFormat) (c : Cur) :
    F.consumeTruth c = F.readItem 2 F.truthL F.truthSep F.truthR Truth.ofList c := by
  unfold consumeTruth readItem
  dsimp only
  generalize F.parseFloats 2 _ _ _ _ [] [] = r
  obtain ⟨xs, c2⟩ | _ | _ | _ := r <;> try rfl
  dsimp only [PRes.bind]
  by_cases hin : xs.all Num.in01 = true
  · have hall : ∀ x ∈ xs, validate Num.in01 x = .ok x := fun x hx => validate_ok _ x (List.all_eq_true.mp hin x hx)
    rw [if_pos hin, if_neg (by simp [hin])]
    rcases xs with _ | ⟨f, _ | ⟨cc, rest⟩⟩
    · rfl
    · simp only [GTruth.newSingle, hall f (.head _), Res.bind, Res.map, liftRes, Truth.ofG, Truth.ofList, GTruth.ofList]
    · simp only [GTruth.newDouble, hall f (.head _), hall cc (.tail _ (.head _)), Res.bind, Res.map, liftRes,
        Truth.ofG, Truth.ofList, GTruth.ofList]
  · rw [if_neg hin, if_pos (by simp [hin])]

theorem consumeBudget_eq (F : EFormat) (c : Cur) :
    F.consumeBudget c = F.readItem 3 F.budgetL F.budgetSep F.budgetR Budget.ofList c := by
  unfold consumeBudget readItem
  dsimp only
  generalize F.parseFloats 3 _ _ _ _ [] [] = r
  obtain ⟨xs, c2⟩ | _ | _ | _ := r <;> try rfl
  dsimp only [PRes.bind]
  by_cases hin : xs.all Num.in01 = true
  · have hall : ∀ x ∈ xs, validate Num.in01 x = .ok x := fun x hx => validate_ok _ x (List.all_eq_true.mp hin x hx)
    rw [if_pos hin, if_neg (by simp [hin])]
    rcases xs with _ | ⟨p, _ | ⟨d, _ | ⟨q, rest⟩⟩⟩
    · rfl
    · simp only [GBudget.newSingle, hall p (.head _), Res.bind, Res.map, liftRes, Budget.ofG, Budget.ofList, GBudget.ofList]
    · simp only [GBudget.newDouble, hall p (.head _), hall d (.tail _ (.head _)), Res.bind, Res.map, liftRes,
        Budget.ofG, Budget.ofList, GBudget.ofList]
    · simp only [GBudget.newTriple, hall p (.head _), hall d (.tail _ (.head _)), hall q (.tail _ (.tail _ (.head _))),
        Res.bind, Res.map, liftRes, Budget.ofG, Budget.ofList, GBudget.ofList]
  · rw [if_neg hin, if_pos (by simp [hin])]

theorem Truth.tryFromFloats_eq (xs : List Num) :
    Truth.tryFromFloats xs = if (xs.take 2).all Num.in01 then .ok (.ofList xs) else .err := by
  rw [Truth.tryFromFloats, Props.C13.truth_try_eq]; split <;> rfl

theorem Budget.tryFromFloats_eq (xs : List Num) :
    Budget.tryFromFloats xs = if (xs.take 3).all Num.in01 then .ok (.ofList xs) else .err := by
  rw [Budget.tryFromFloats, Props.C13.budget_try_eq]; split <;> rfl

theorem Truth.components_ofList (xs : List Num) : (Truth.ofList xs).components = xs.take 2 := by
  rcases xs with _ | ⟨f, _ | ⟨c, r⟩⟩ <;> rfl

theorem Budget.components_ofList (xs : List Num) : (Budget.ofList xs).components = xs.take 3 := by
  rcases xs with _ | ⟨p, _ | ⟨d, _ | ⟨q, r⟩⟩⟩ <;> rfl

theorem Truth.ofList_components (t : Truth) : Truth.ofList t.components = t := by cases t <;> rfl
theorem Budget.ofList_components (b : Budget) : Budget.ofList b.components = b := by cases b <;> rfl

/-- a sentence built from its parts has the term it was given, and as truth the given one or the empty one -/
theorem Sentence.fromPunctuation_and (f : Term → Bool) (g : Truth → Bool) (hg : g .empty = true) {t : Term} {tr : Truth}
    (p : Punct) (st : Stamp) (ht : f t = true) (htr : g tr = true) :
    (f (Sentence.fromPunctuation t p st tr).term && g (Sentence.fromPunctuation t p st tr).truthOrEmpty) = true := by
  cases p <;> simp [Sentence.fromPunctuation, Sentence.term, Sentence.truthOrEmpty, ht, htr, hg]

/-- what `transform_mid_result` makes of the slots once there is a term: the value, and the slots it leaves filled -/
def Mid.form (m : Mid) (t : Term) : Narsese × Mid :=
  match m.punct, m.budget with
  | none, _ => (.term t, { m with term := none })
  | some p, none => (.sentence (.fromPunctuation t p (m.stamp.getD .eternal) (m.truth.getD .empty)), {})
  | some p, some b =>
    (.task { sentence := .fromPunctuation t p (m.stamp.getD .eternal) (m.truth.getD .empty), budget := b }, {})

theorem transformMid_eq (c : Cur) (m : Mid) :
    transformMid c m = match m.term with | none => .err c | some t => .ok (m.form t) := by
  unfold transformMid Mid.form
  cases m.term with
  | none => exact raise_eq_err c
  | some t => cases m.punct <;> cases m.budget <;> rfl

/-- `has_sentence` and `has_task` of the slots say which kind of value is formed -/
theorem Mid.form_kind {m : Mid} {t : Term} (ht : m.term = some t) : (m.form t).1.kind = m.kind := by
  unfold Mid.form Mid.kind Mid.hasTask Mid.hasSentence
  rw [ht]
  cases m.punct <;> cases m.budget <;> rfl

end Narsese
