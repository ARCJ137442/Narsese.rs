/-
  Folding. It is total (C05): the image index found by `to_terms_with_image` is in range, and
  every step of `fold` returns Ok or Err. And what a successful fold was built from: inversion of `foldTerm` per
  lexical constructor and of the two builders, for the properties that say something of every `Ok` of the fold
  (C12, C14).
-/
import NarseseModel.Fold
import Props.C04
import Props.C13
set_option autoImplicit false

namespace Narsese
open EFormat

/-- While no placeholder has been met, `acc` holds all `n` components passed; the one met at position `j` is dropped,
so from then on `j ≤ |acc|`. -/
theorem toTermsWithImage_inv : ∀ (ts : List Term) (n : Nat) (idx : Option Nat) (acc : List Term),
    (idx = none → acc.length = n) → (∀ j ∈ idx, j ≤ acc.length) →
    ∀ i ∈ (toTermsWithImage ts n idx acc).1, i ≤ (toTermsWithImage ts n idx acc).2.length
  | [], _, _, _, _, h2 => h2
  | t :: ts, n, idx, acc, h1, h2 => by
    rw [toTermsWithImage]
    split
    · next hc =>
      have hnone : idx = none := Option.isNone_iff_eq_none.mp (Bool.and_eq_true_iff.mp hc).2
      refine toTermsWithImage_inv ts (n + 1) (some n) acc nofun fun j hj => ?_
      cases hj
      exact Nat.le_of_eq (h1 hnone).symm
    · refine toTermsWithImage_inv ts (n + 1) idx (acc ++ [t]) (fun hn => ?_) fun j hj => ?_
      · rw [List.length_append, h1 hn, List.length_singleton]
      · exact Nat.le_trans (h2 j hj) (List.length_append ▸ Nat.le_add_right _ _)

/-- **image index lemma**: the index found by `to_terms_with_image` never exceeds the number of
remaining components, so `new_image_*` (which panics otherwise) is safe -/
theorem toTermsWithImage_index (ts : List Term) (i : Nat) (ts' : List Term)
    (h : toTermsWithImage ts 0 none [] = (some i, ts')) : i ≤ ts'.length := by
  have := toTermsWithImage_inv ts 0 none [] (fun _ => rfl) nofun i
  rw [h] at this
  exact this rfl

theorem buildCompound_total (ck : ConnK) (ts : List Term) : (buildCompound ck ts).total = true := by
  cases ck with
  | img k =>
    rw [buildCompound]
    split
    · next i ts' h =>
      rw [newImage, if_neg (Nat.not_lt.mpr (toTermsWithImage_index ts i ts' h))]
      rfl
    · rfl
  | diff k =>
    simp only [buildCompound]
    split <;> rfl
  | neg =>
    simp only [buildCompound]
    split <;> rfl
  | _ => rfl

theorem buildAtom_total (hd : AtomHead) (name : Str) : (buildAtom hd name).total = true := by
  cases hd with
  | interval =>
    rw [buildAtom]
    split <;> rfl
  | _ => rfl

theorem foldAtom_total (F : EFormat) (pre name : Str) : (F.foldAtom pre name).total = true := by
  unfold foldAtom
  split
  · exact buildAtom_total _ _
  · rfl

theorem foldCompound_total (F : EFormat) (conn : Str) (ts : List Term) : (F.foldCompound conn ts).total = true := by
  unfold foldCompound
  split
  · exact buildCompound_total _ _
  · rfl

theorem foldSet_total (F : EFormat) (l r : Str) (ts : List Term) : (F.foldSet l r ts).total = true := by
  unfold foldSet
  split <;> rfl

theorem foldStatement_total (F : EFormat) (cop : Str) (s p : Term) : (F.foldStatement cop s p).total = true := by
  unfold foldStatement
  split <;> rfl

mutual
  theorem foldTerm_total (F : EFormat) : ∀ x : LTerm, (F.foldTerm x).total = true
    | .atom pre name => foldAtom_total F pre name
    | .compound conn ts => by
      rw [foldTerm]
      exact Res.total_elim (foldTerms_total F ts) (fun _ => foldCompound_total F conn _) rfl
    | .set l ts r => by
      rw [foldTerm]
      exact Res.total_elim (foldTerms_total F ts) (fun _ => foldSet_total F l r _) rfl
    | .stmt cop s p => by
      rw [foldTerm]
      refine Res.total_elim (foldTerm_total F s) (fun _ => ?_) rfl
      exact Res.total_elim (foldTerm_total F p) (fun _ => foldStatement_total F cop _ _) rfl
  theorem foldTerms_total (F : EFormat) : ∀ xs : LTerms, (F.foldTerms xs).total = true
    | .nil => rfl
    | .cons t ts => by
      rw [foldTerms]
      refine Res.total_elim (foldTerm_total F t) (fun _ => ?_) rfl
      exact Res.total_elim (foldTerms_total F ts) (fun _ => rfl) rfl
end

theorem foldFloats_total : ∀ xs : List Str, (foldFloats xs).total = true
  | [] => rfl
  | s :: ss => by
    rw [foldFloats]
    split
    · exact Res.map_total (foldFloats_total ss)
    · rfl

theorem foldTruth_total (xs : List Str) : (foldTruth xs).total = true :=
  Res.bind_total (foldFloats_total xs) fun ys => Res.map_total (Props.C13.truth_try_total Num.in01 ys)

theorem foldBudget_total (xs : List Str) : (foldBudget xs).total = true :=
  Res.bind_total (foldFloats_total xs) fun ys => Res.map_total (Props.C13.budget_try_total Num.in01 ys)

theorem foldSentence_total (F : EFormat) (s : LSentence) : (F.foldSentence s).total = true := by
  unfold foldSentence
  refine Res.bind_total (foldTerm_total F _) fun t => ?_
  refine Res.bind_total (foldTruth_total _) fun tr => ?_
  refine Res.bind_total (Props.C04.stampDoor_total F _) fun st => ?_
  refine Res.bind_total (Props.C04.punctDoor_total F _) fun p => ?_
  rfl

theorem foldTask_total (F : EFormat) (k : LTask) : (F.foldTask k).total = true := by
  unfold foldTask
  refine Res.bind_total (foldBudget_total _) fun b => ?_
  refine Res.bind_total (foldSentence_total F _) fun s => ?_
  rfl

theorem buildAtom_ok {hd : AtomHead} {name : Str} {v : Term} (h : buildAtom hd name = .ok v) :
    (∃ k, v = .atom k name) ∨ v = .placeholder ∨ ∃ n, v = .interval n := by
  cases hd with
  | named k => cases h; exact .inl ⟨k, rfl⟩
  | placeholder => cases h; exact .inr (.inl rfl)
  | interval =>
    simp only [buildAtom] at h
    split at h
    · cases h; exact .inr (.inr ⟨_, rfl⟩)
    · cases h

theorem buildCompound_ok {ck : ConnK} {ts : List Term} {v : Term} (h : buildCompound ck ts = .ok v) :
    match ck with
    | .set k => v = .setlike k (Terms.ofList (mkSetSem ts))
    | .seq k => v = .seqlike k (Terms.ofList ts)
    | .diff k => ∃ a b r, ts = a :: b :: r ∧ v = .bin k a b
    | .img k => ∃ i ts', toTermsWithImage ts 0 none [] = (some i, ts') ∧ ¬ i > ts'.length ∧ v = .image k i (Terms.ofList ts')
    | .neg => ∃ a r, ts = a :: r ∧ v = .neg a
    | .operatorUnsupported => False := by
  cases ck with
  | set k => cases h; rfl
  | seq k => cases h; rfl
  | diff k =>
    simp only [buildCompound] at h
    split at h
    · cases h; exact ⟨_, _, _, rfl, rfl⟩
    · cases h
  | img k =>
    simp only [buildCompound, newImage] at h
    split at h
    · next i ts' heq =>
      split at h
      · cases h
      · next hi => cases h; exact ⟨i, ts', heq, hi, rfl⟩
    · cases h
  | neg =>
    simp only [buildCompound] at h
    split at h
    · cases h; exact ⟨_, _, rfl, rfl⟩
    · cases h
  | operatorUnsupported => cases h

variable {F : EFormat}

theorem foldTerm_atom_ok {pre name : Str} {v : Term} (h : F.foldTerm (.atom pre name) = .ok v) :
    ∃ hd, buildAtom hd name = .ok v := by
  unfold foldTerm foldAtom at h
  split at h
  · exact ⟨_, h⟩
  · cases h

theorem foldTerm_compound_ok {conn : Str} {ts : LTerms} {v : Term} (h : F.foldTerm (.compound conn ts) = .ok v) :
    ∃ ts' ck, F.foldTerms ts = .ok ts' ∧ (conn, ck) ∈ F.foldConnTable ∧ buildCompound ck ts' = .ok v := by
  unfold foldTerm at h
  split at h
  · next ts' hts =>
    unfold foldCompound at h
    split at h
    · next kw ck hf =>
      have hkw : conn = kw := by simpa using List.find?_some hf
      exact ⟨ts', ck, hts, hkw ▸ List.mem_of_find?_eq_some hf, h⟩
    · cases h
  all_goals cases h

theorem foldTerm_set_ok {l r : Str} {ts : LTerms} {v : Term} (h : F.foldTerm (.set l ts r) = .ok v) :
    ∃ ts' k, F.foldTerms ts = .ok ts' ∧ v = .setlike k (Terms.ofList (mkSetSem ts')) := by
  unfold foldTerm at h
  split at h
  · next ts' hts =>
    unfold foldSet at h
    split at h
    · cases h; exact ⟨ts', _, hts, rfl⟩
    · cases h
  all_goals cases h

theorem foldTerm_stmt_ok {cop : Str} {s p : LTerm} {v : Term} (h : F.foldTerm (.stmt cop s p) = .ok v) :
    ∃ s' p' ck, F.foldTerm s = .ok s' ∧ F.foldTerm p = .ok p' ∧ (cop, ck) ∈ F.copulaTable ∧ v = ck.build s' p' := by
  unfold foldTerm at h
  split at h
  · next s' hs =>
    split at h
    · next p' hp =>
      unfold foldStatement at h
      split at h
      · next kw ck hf =>
        have hkw : cop = kw := by simpa using List.find?_some hf
        cases h
        exact ⟨s', p', ck, hs, hp, hkw ▸ List.mem_of_find?_eq_some hf, rfl⟩
      · cases h
    all_goals cases h
  all_goals cases h

theorem foldTerms_cons_ok {t : LTerm} {ts : LTerms} {vs : List Term} (h : F.foldTerms (.cons t ts) = .ok vs) :
    ∃ t' ts', F.foldTerm t = .ok t' ∧ F.foldTerms ts = .ok ts' ∧ vs = t' :: ts' := by
  unfold foldTerms at h
  split at h
  · next t' ht =>
    split at h
    · next ts' hts => cases h; exact ⟨t', ts', ht, hts, rfl⟩
    all_goals cases h
  all_goals cases h

end Narsese
