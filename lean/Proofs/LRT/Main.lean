/-
  Lexical round trip, term level: the component loop and the three bracketed forms, each given its parts; the term
  theorem (mutual over terms and component lists), then with the fuel bound of `segTerm_good`.
-/
import Proofs.LRT.Term
set_option autoImplicit false

namespace Narsese
open LFormat

section
variable (L : LFormat)

theorem txt_compound (conn : Str) (t : LTerm) (ts : LTerms) :
    (noSp L).fmtTerm (.compound conn (.cons t ts)) =
      L.compL ++ (conn ++ (tailL L.separator (fmtTerms (noSp L) (.cons t ts)) ++ L.compR)) := by
  simp only [fmtTerm, fmtTerms, joinComponents, noSp, List.append_nil, joinWith_cons_tail, tailL, List.append_assoc]

theorem txt_set (l r : Str) (t : LTerm) (ts : LTerms) :
    (noSp L).fmtTerm (.set l (.cons t ts) r) =
      l ++ ((noSp L).fmtTerm t ++ (tailL L.separator (fmtTerms (noSp L) ts) ++ r)) := by
  simp only [fmtTerm, fmtTerms, joinComponents, noSp, List.append_nil, joinWith_cons_tail, List.append_assoc]

theorem txt_stmt (cop : Str) (s p : LTerm) :
    (noSp L).fmtTerm (.stmt cop s p) =
      L.stmtL ++ ((noSp L).fmtTerm s ++ (cop ++ ((noSp L).fmtTerm p ++ L.stmtR))) := by
  simp only [fmtTerm, noSp, List.append_nil, List.append_assoc]

end

section
variable {L : LFormat} (hL : LFormatOK L)
include hL

theorem openers_pairwise :
    ((L.setBrackets.map (·.1)) ++ [L.compL, L.stmtL]).Pairwise (fun a b => incompat a b = true) :=
  pairwiseB_iff.mp hL.split.openers

theorem set_compL {p : Str × Str} (hp : p ∈ L.setBrackets) : incompat p.1 L.compL = true :=
  (List.pairwise_append.mp (openers_pairwise hL)).2.2 _ (List.mem_map_of_mem hp) _ (by simp)

theorem set_stmtL {p : Str × Str} (hp : p ∈ L.setBrackets) : incompat p.1 L.stmtL = true :=
  (List.pairwise_append.mp (openers_pairwise hL)).2.2 _ (List.mem_map_of_mem hp) _ (by simp)

theorem compL_stmtL : incompat L.compL L.stmtL = true :=
  List.rel_of_pairwise_cons (List.pairwise_append.mp (openers_pairwise hL)).2.1 (by simp)

theorem matchSet (l r : Str) (hp : (l, r) ∈ L.setBrackets) (X : Str) :
    matchPrefixPair L.setBrackets (l ++ X) = some (l, r) :=
  find?_of_incompat (fun p : Str × Str => p.1) (List.pairwise_append.mp (openers_pairwise hL)).1 hp X

theorem matchCopula (cop : Str) (hc : cop ∈ L.copulas) (X : Str) : matchPrefix L.copulas (cop ++ X) = some cop :=
  find?_of_incompat id (by rw [List.map_id]; exact pairwiseB_iff.mp hL.split.copulas) hc X

theorem matchConnecter (conn : Str) (hc : conn ∈ L.connecters) (Z : Str) :
    matchPrefix L.connecters (conn ++ (L.separator ++ Z)) = some conn := by
  obtain ⟨j, hj⟩ := List.getElem?_of_mem hc
  have hf := List.all_eq_true.mp hL.split.connecters j (List.mem_range.mpr (List.getElem?_eq_some_iff.mp hj).1)
  simp only [hj] at hf
  rw [← List.append_assoc]
  exact matchPrefix_firstAt hj hf Z

theorem right_terminator {r : Str} (hr : r ∈ lRights L) : r ≠ [] ∧ headNotIdent L r = true := by
  apply hL.terminator
  simp only [lRights, List.mem_append, List.mem_map, List.mem_cons, List.not_mem_nil, or_false] at hr
  simp only [List.mem_append, List.mem_cons, List.not_mem_nil, or_false, List.mem_map]
  rcases hr with ⟨p, hp, rfl⟩ | rfl
  · exact .inr ⟨p, hp, rfl⟩
  · exact .inl (.inr (.inl rfl))

theorem tail_stopL {right : Str} (hr : right ∈ lRights L) (ss : List Str) (rest : Str) :
    StopL L (tailL L.separator ss ++ (right ++ rest)) := by
  cases ss with
  | nil =>
    obtain ⟨hne, hh⟩ := right_terminator hL hr
    simpa [tailL] using stopL_of_head L right rest hne hh
  | cons s ss =>
    obtain ⟨hne, hh⟩ := hL.terminator (k := L.separator) (by simp)
    simp only [tailL, List.append_assoc]
    exact stopL_of_head L _ _ hne hh

omit hL in
theorem loopL_end (right rest P env : Str) (acc : List LTerm) (henv : env = P ++ (right ++ rest)) (fuel : Nat) :
    RL (L.segComponents fuel right env P.length acc) (acc, P.length + right.length) := by
  cases fuel with
  | zero => exact RL_fuel _
  | succ f =>
    subst henv
    unfold segComponents
    rw [sliceFrom_append P _ rfl]
    simp only [isPre_append, if_true]
    exact RL_ok _

theorem loopL_step {right : Str} (hr : right ∈ lRights L) (P s Z env : Str) (t : LTerm) (acc : List LTerm)
    (x : List LTerm × Nat) (henv : env = P ++ (L.separator ++ (s ++ Z))) (f : Nat)
    (hterm : RL (L.segTerm f (s ++ Z)) (t, s.length))
    (hrest : RL (L.segComponents f right env (P ++ L.separator ++ s).length (acc ++ [t])) x) :
    RL (L.segComponents (f + 1) right env P.length acc) x := by
  have e2 := sliceFrom_append (P ++ L.separator) (s ++ Z) List.length_append.symm
  rw [List.append_assoc] at e2
  subst henv
  unfold segComponents
  rw [sliceFrom_append P _ rfl]
  simp only [not_isPre_of_incompat (hL.right_sep hr) (s ++ Z), Bool.false_eq_true, if_false, isPre_append, if_true, e2]
  refine hterm.elim ?_ (RL_fuel _)
  simp only [← List.length_append]
  exact hrest

theorem lset_rt {l r : Str} (hp : (l, r) ∈ L.setBrackets) (t : LTerm) (ts : List LTerm) (s Z : Str) (b : Nat)
    (hterm : ∀ f, RL (L.segTerm f (s ++ Z)) (t, s.length))
    (hloop : ∀ f, RL (L.segComponents f r (l ++ (s ++ Z)) (l ++ s).length [t]) (ts, b)) :
    ∀ fuel, RL (L.segSet fuel (l ++ (s ++ Z))) (.set l (LTerms.ofList ts) r, b)
  | 0 => RL_fuel _
  | f + 1 => by
    unfold segSet
    rw [matchSet hL l r hp]
    simp only [List.drop_left]
    refine (hterm f).elim ?_ (RL_fuel _)
    dsimp only
    rw [← List.length_append]
    exact (hloop f).elim (RL_ok _) (RL_fuel _)

theorem lcompound_rt {conn : Str} (hc : conn ∈ L.connecters) (ts : List LTerm) (Z : Str) (b : Nat)
    (hloop : ∀ f, RL (L.segComponents f L.compR (L.compL ++ (conn ++ (L.separator ++ Z))) (L.compL ++ conn).length [])
      (ts, b)) :
    ∀ fuel, RL (L.segCompound fuel (L.compL ++ (conn ++ (L.separator ++ Z)))) (.compound conn (LTerms.ofList ts), b)
  | 0 => RL_fuel _
  | f + 1 => by
    unfold segCompound
    rw [strip_append]
    simp only [matchConnecter hL conn hc]
    rw [← List.length_append]
    exact (hloop f).elim (RL_ok _) (RL_fuel _)

theorem lstatement_rt {cop : Str} (hc : cop ∈ L.copulas) (a b : LTerm) (sa sb rest : Str)
    (ha : ∀ f, RL (L.segTerm f (sa ++ (cop ++ (sb ++ (L.stmtR ++ rest))))) (a, sa.length))
    (hb : ∀ f, RL (L.segTerm f (sb ++ (L.stmtR ++ rest))) (b, sb.length)) :
    ∀ fuel, RL (L.segStatement fuel (L.stmtL ++ (sa ++ (cop ++ (sb ++ (L.stmtR ++ rest))))))
      (.stmt cop a b, (L.stmtL ++ (sa ++ (cop ++ (sb ++ L.stmtR)))).length)
  | 0 => RL_fuel _
  | f + 1 => by
    have hm := matchCopula hL cop hc (sb ++ (L.stmtR ++ rest))
    -- the three slices of `env`, each at the end of a prefix `P` of `env = P ++ X`
    have e1 := sliceFrom_append (L.stmtL ++ sa) (cop ++ (sb ++ (L.stmtR ++ rest))) (List.length_append).symm
    have e2 := sliceFrom_append (L.stmtL ++ sa ++ cop) (sb ++ (L.stmtR ++ rest))
      (n := L.stmtL.length + sa.length + cop.length) (by simp only [List.length_append])
    have e3 := sliceFrom_append (L.stmtL ++ sa ++ cop ++ sb) (L.stmtR ++ rest)
      (n := L.stmtL.length + sa.length + cop.length + sb.length) (by simp only [List.length_append])
    simp only [List.append_assoc] at e1 e2 e3
    unfold segStatement
    rw [strip_append]
    dsimp only
    refine (ha f).elim ?_ (RL_fuel _)
    simp only [e1, hm, e2]
    refine (hb f).elim ?_ (RL_fuel _)
    simp only [e3, isPre_append, if_true]
    exact .inr (by simp only [List.length_append, Nat.add_assoc])

theorem opener_not_pre_atom (pre name rest : Str) (h : lAtomOK L pre name = true) {o : Str} (ho : o ∈ lOpeners L) :
    isPre o (pre ++ name ++ rest) = false := by
  obtain ⟨⟨j, hj1, _⟩, hid, _, hne⟩ := lAtomOK_split h
  obtain ⟨hone, hhead, hinc⟩ := hL.opener ho
  by_cases hp : pre = []
  · subst hp
    cases name with
    | nil => rcases hne with h | h <;> exact absurd rfl h
    | cons c cs =>
      exact not_isPre_of_head (p := L.isIdent) hone (head_all_not.mp hhead) (hid c (by simp)) _
  · rw [List.append_assoc]
    exact not_isPre_of_incompat (hinc pre (List.mem_of_getElem? hj1) hp) _

theorem copula_stopL {cop : Str} (hc : cop ∈ L.copulas) (r : Str) : StopL L (cop ++ r) :=
  stopL_of_copula L _ (by rw [matchCopula hL cop hc r]; exact Option.some_ne_none _)

mutual
  theorem rt_lterm : ∀ (t : LTerm), wfLT L t = true → ∀ (fuel : Nat) (rest : Str), StopL L rest →
      RL (L.segTerm fuel ((noSp L).fmtTerm t ++ rest)) (t, ((noSp L).fmtTerm t).length)
    | _, _, 0, _, _ => RL_fuel _
    | .atom pre name, ht, f + 1, rest, hst => by
      simp only [wfLT] at ht
      have hop : ∀ o ∈ lOpeners L, isPre o (pre ++ name ++ rest) = false := fun o ho =>
        opener_not_pre_atom hL pre name rest ht ho
      exact segTerm_via_atom L f _ _
        (segSet_miss L f _ fun p hp => hop _ (List.mem_append_left _ (List.mem_map_of_mem hp)))
        (segCompound_miss L f _ (hop _ (by simp [lOpeners]))) (segStatement_miss L f _ (hop _ (by simp [lOpeners])))
        (segAtom_rt L pre name rest ht hst)
    -- the bracketed forms: the form's lemma on what the recursive calls give for every fuel; `txt_*` and
    -- associativity then bring its text and border to those of the statement
    | .compound conn .nil, ht, f + 1, rest, hst => by simp [wfLT] at ht
    | .compound conn (.cons t ts), ht, f + 1, rest, hst => by
      simp only [wfLT, Bool.and_eq_true, List.contains_eq_mem, decide_eq_true_eq, Bool.not_eq_true'] at ht
      obtain ⟨⟨hconn, _⟩, hts⟩ := ht
      have := lcompound_rt hL hconn _ ((noSp L).fmtTerm t ++ (tailL L.separator (fmtTerms (noSp L) ts) ++ (L.compR ++ rest))) _
        (fun f => rt_lcomps (.cons t ts) hts L.compR (by simp [lRights]) rest f (L.compL ++ conn) [] _
          (by simp only [fmtTerms, tailL, List.append_assoc])) f
      have := segTerm_via_compound L f _ _ (segSet_miss L f _ fun p hp => not_isPre_of_incompat (set_compL hL hp) _) this
      simpa only [txt_compound, fmtTerms, tailL, List.append_assoc, List.length_append, Nat.add_assoc, List.nil_append,
        LTerms.ofList_toList] using this
    | .set l .nil r, ht, f + 1, rest, hst => by simp [wfLT] at ht
    | .set l (.cons t ts) r, ht, f + 1, rest, hst => by
      simp only [wfLT, wfLTs, Bool.and_eq_true, List.contains_eq_mem, decide_eq_true_eq, Bool.not_eq_true'] at ht
      obtain ⟨⟨hp, _⟩, ht, hts⟩ := ht
      have hr : r ∈ lRights L := List.mem_append_left _ (List.mem_map_of_mem hp)
      have := lset_rt hL hp t _ _ _ _ (fun f => rt_lterm t ht f _ (tail_stopL hL hr _ rest))
        (fun f => rt_lcomps ts hts r hr rest f (l ++ (noSp L).fmtTerm t) [t] _ (List.append_assoc _ _ _).symm) f
      have := segTerm_via_set L f _ _ this
      simpa only [txt_set, List.append_assoc, List.length_append, Nat.add_assoc, List.singleton_append, LTerms.ofList,
        LTerms.ofList_toList] using this
    | .stmt cop a b, ht, f + 1, rest, hst => by
      simp only [wfLT, Bool.and_eq_true, List.contains_eq_mem, decide_eq_true_eq] at ht
      obtain ⟨⟨hc, ha⟩, hb⟩ := ht
      obtain ⟨hne, hh⟩ := hL.terminator (k := L.stmtR) (by simp)
      have := lstatement_rt hL hc a b _ _ rest (fun f => rt_lterm a ha f _ (copula_stopL hL hc _))
        (fun f => rt_lterm b hb f _ (stopL_of_head L _ _ hne hh)) f
      have := segTerm_via_statement L f _ _ (segSet_miss L f _ fun p hp => not_isPre_of_incompat (set_stmtL hL hp) _)
        (segCompound_miss L f _ (not_isPre_of_incompat (compL_stmtL hL) _)) this
      simpa only [txt_stmt, List.append_assoc] using this

  theorem rt_lcomps : ∀ (ts : LTerms), wfLTs L ts = true → ∀ (right : Str), right ∈ lRights L → ∀ (rest : Str)
      (fuel : Nat) (P : Str) (acc : List LTerm) (env : Str),
      env = P ++ (tailL L.separator (fmtTerms (noSp L) ts) ++ (right ++ rest)) →
      RL (L.segComponents fuel right env P.length acc)
        (acc ++ ts.toList, P.length + (tailL L.separator (fmtTerms (noSp L) ts)).length + right.length)
    | .nil, _, right, _, rest, fuel, P, acc, env, henv => by
      have := loopL_end (L := L) right rest P env acc (by simpa [fmtTerms, tailL] using henv) fuel
      simpa [LTerms.toList, fmtTerms, tailL] using this
    | .cons t ts, _, right, _, rest, 0, P, acc, env, _ => RL_fuel _
    | .cons t ts, hts, right, hr, rest, f + 1, P, acc, env, henv => by
      simp only [wfLTs, Bool.and_eq_true] at hts
      have henv' : env = P ++ (L.separator ++ ((noSp L).fmtTerm t ++
          (tailL L.separator (fmtTerms (noSp L) ts) ++ (right ++ rest)))) := by
        rw [henv]; simp only [fmtTerms, tailL, List.append_assoc]
      have := loopL_step hL hr P _ _ env t acc _ henv' f (rt_lterm t hts.1 f _ (tail_stopL hL hr _ rest))
        (rt_lcomps ts hts.2 right hr rest f (P ++ L.separator ++ (noSp L).fmtTerm t) (acc ++ [t]) env
          (by rw [henv']; simp only [List.append_assoc]))
      simpa only [LTerms.toList, fmtTerms, tailL, List.append_assoc, List.length_append, Nat.add_assoc,
        List.singleton_append] using this
end

theorem segTerm_fmtTerm (t : LTerm) (ht : wfLT L t = true) (rest : Str) (hst : StopL L rest) (fuel : Nat)
    (hfuel : 3 * ((noSp L).fmtTerm t ++ rest).length + 2 ≤ fuel) :
    L.segTerm fuel ((noSp L).fmtTerm t ++ rest) = .ok (t, ((noSp L).fmtTerm t).length) :=
  (rt_lterm hL t ht fuel rest hst).resolve_left ((segTerm_good L hL.sane fuel _).2.2 hfuel)

/-- on the bare text of a term the entry point's fuel suffices -/
theorem segTerm_whole (t : LTerm) (ht : wfLT L t = true) :
    L.segTerm (lexFuel ((noSp L).fmtTerm t)) ((noSp L).fmtTerm t) = .ok (t, ((noSp L).fmtTerm t).length) := by
  have := segTerm_fmtTerm hL t ht [] (stopL_nil L) (lexFuel ((noSp L).fmtTerm t))
    (by simp only [lexFuel, List.append_nil]; omega)
  rwa [List.append_nil] at this

/-- a well-formed term has a text: its segmentation consumes at least one character -/
theorem fmtTerm_ne (t : LTerm) (ht : wfLT L t = true) : (noSp L).fmtTerm t ≠ [] := by
  intro h0
  have := ((segTerm_good L hL.sane _ _).2.1 t _ (segTerm_whole hL t ht)).1
  rw [h0] at this
  exact absurd this (by decide)

end

end Narsese
