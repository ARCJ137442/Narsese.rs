/-
  Lexical round trip, part 1: side conditions and well-formedness.
-/
import Proofs.LexItemsTotal
import Proofs.NumLemmas
set_option autoImplicit false

namespace Narsese
open LFormat

/-- the format without formatting spaces: what `idealize_env` leaves of the formatter's output -/
def noSp (L : LFormat) : LFormat := { L with spaceTerms := [], spaceItems := [] }

def lOpeners (L : LFormat) : List Str := L.setBrackets.map (·.1) ++ [L.compL, L.stmtL]
/-- the closers that terminate a component loop -/
def lRights (L : LFormat) : List Str := L.setBrackets.map (·.2) ++ [L.compR]
def headNotIdent (L : LFormat) (k : Str) : Bool := k.head?.all (fun c => !L.isIdent c)

/-- entry `j` of an ordered dictionary is the first one compatible with `txt` -/
def firstAt (dict : List Str) (j : Nat) (txt : Str) : Bool :=
  (List.range j).all (fun i => match dict[i]? with
    | some y => !compat y txt
    | none => true)

/-- decidable side condition on a lexical format for the term level -/
def lFormatOKB (L : LFormat) : Bool :=
  lSaneB L &&
  -- dispatch between set / compound / statement openers, and against atoms
  pairwiseB incompat (lOpeners L) &&
  (lOpeners L).all (fun o => headNotIdent L o && L.atomPrefixes.all (fun p => p.isEmpty || incompat o p)) &&
  -- what may follow a component: separator and closers are non-empty and do not begin with an identifier char
  ([L.separator, L.compR, L.stmtR] ++ L.setBrackets.map (·.2)).all (fun k => !k.isEmpty && headNotIdent L k) &&
  (lRights L).all (fun r => incompat r L.separator) &&
  -- copulas
  pairwiseB incompat L.copulas && L.copulas.all (fun c => !c.isEmpty) &&
  -- connecters: the printed one is the first match on `connecter ++ separator`
  (List.range L.connecters.length).all (fun j =>
    match L.connecters[j]? with
    | some c => firstAt L.connecters j (c ++ L.separator)
    | none => true)

structure LFormatOK (L : LFormat) : Prop where
  ok : lFormatOKB L = true

/-- an atom that reads back: its prefix is the first dictionary entry compatible with its text, the name
consists of identifier characters, no copula begins inside it or straddles its end, and a prefix-less atom
has a name -/
def lAtomOK (L : LFormat) (pre name : Str) : Bool :=
  (List.range L.atomPrefixes.length).any (fun j =>
    L.atomPrefixes[j]? == some pre && firstAt L.atomPrefixes j (pre ++ name)) &&
  name.all L.isIdent &&
  (sufs name).all (fun s => L.copulas.all (fun c => !compat c s)) &&
  (!pre.isEmpty || !name.isEmpty)

mutual
  def wfLT (L : LFormat) : LTerm → Bool
    | .atom pre name => lAtomOK L pre name
    | .compound conn ts => L.connecters.contains conn && !(match ts with | .nil => true | _ => false) && wfLTs L ts
    | .set l ts r => L.setBrackets.contains (l, r) && !(match ts with | .nil => true | _ => false) && wfLTs L ts
    | .stmt cop s p => L.copulas.contains cop && wfLT L s && wfLT L p
  def wfLTs (L : LFormat) : LTerms → Bool
    | .nil => true
    | .cons t ts => wfLT L t && wfLTs L ts
end

/-- what may follow a term: the identifier scanner consumes nothing from it -/
def StopL (L : LFormat) (rest : Str) : Prop := L.scanIdent rest = 0

end Narsese
