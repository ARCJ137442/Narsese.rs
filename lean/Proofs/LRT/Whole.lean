/-
  Lexical round trip: `parse_items` on a whole idealized line `budget? term punctuation stamp? truth?`; whole
  values, `idealize_env` on the formatter's output, and `parse (format v) = Ok v`.
-/
import Proofs.LRT.Items
set_option autoImplicit false

namespace Narsese
open LFormat

/-- an optional item of a line: absent when empty -/
def optL {α : Type} (xs : List α) : Option (List α) := if xs.isEmpty then none else some xs

theorem optL_getD {α : Type} (xs : List α) : (optL xs).getD [] = xs := by
  unfold optL
  cases xs <;> simp

theorem optL_eq_none {α : Type} {xs : List α} (h : optL xs = none) : xs = [] := by
  cases xs with
  | nil => rfl
  | cons x xs => cases h

theorem joinLest_nil3 (a b c : Str) : joinLest [] [a, b, c] = a ++ b ++ c := by
  rw [joinLest_eq]
  cases b <;> cases c <;> simp

/-- the term alone must not be taken for a line with right-hand items -/
def TermTailOK (L : LFormat) (T : Str) : Prop :=
  L.segTruth T = .ok none ∧ L.segStamp T = .ok none ∧ L.segPunct T = none

/-- text of a truth in the idealized line -/
def truTxt (L : LFormat) (tr : List Str) : Str :=
  if tr.isEmpty then [] else L.truthL ++ joinWith L.truthSep tr ++ L.truthR

section
variable {L : LFormat} (hI : LItemsOK L)
include hI

/-- `parse_items` on `budget? ++ term ++ punctuation ++ stamp? ++ truth?` -/
theorem parseItems_line (Bt : Str) (bud : Option (List Str × Nat)) (t : LTerm) (ht : wfLT L t = true)
    (p : Str) (hp : p ∈ L.punctuations) (st : Str) (hst : st = [] ∨ StampOK L st)
    (tr : List Str) (htr : ∀ x ∈ tr, numStrB x = true)
    (hbud : L.segBudget (Bt ++ (noSp L).fmtTerm t ++ p ++ st ++ truTxt L tr) = bud)
    (hb : (bud.map (·.2)).getD 0 = Bt.length) :
    L.parseItems (Bt ++ (noSp L).fmtTerm t ++ p ++ st ++ truTxt L tr) =
      .ok { budget := bud.map (·.1), term := some t, punct := some p, stamp := optL st, truth := optL tr } := by
  have hpn := hI.split.punct
  have hTne := fmtTerm_ne hI.base t ht
  have hterm := segTerm_whole hI.base t ht
  generalize (noSp L).fmtTerm t = T at hbud hTne hterm ⊢
  have htru : L.segTruth (Bt ++ T ++ p ++ st ++ truTxt L tr) = .ok ((optL tr).map (·, (Bt ++ T ++ p ++ st).length)) := by
    by_cases h0 : tr = []
    · subst h0
      simp only [optL, truTxt, List.isEmpty_nil, if_true, Option.map_none, List.append_nil]
      apply segTruth_none
      rcases hst with rfl | hs
      · rw [List.append_nil]
        exact not_isSuf_of_not_sufCompat (hpn p hp).2 _
      · exact not_isSuf_of_not_sufCompat hs.not_truth _
    · simp only [optL, truTxt, nonempty_isEmpty h0, Bool.false_eq_true, if_false, Option.map_some]
      exact segTruth_txt hI tr h0 htr _
  have hsta : L.segStamp (Bt ++ T ++ p ++ st) = .ok ((optL st).map (·, (Bt ++ T ++ p).length)) := by
    rcases hst with rfl | hs
    · simp only [optL, List.isEmpty_nil, if_true, Option.map_none, List.append_nil]
      exact segStamp_none hI p hp _
    · simp only [optL, nonempty_isEmpty hs.ne, Bool.false_eq_true, if_false, Option.map_some]
      exact segStamp_txt st hs _
  exact parseItems_assemble L Bt T p st (truTxt L tr) bud (optL tr) (optL st) (some p) t _ hbud hb htru
    (fun h => by rw [truTxt, optL_eq_none h]; rfl) hsta optL_eq_none (segPunct_txt hI p hp (Bt ++ T)) nofun hTne hterm

end

def SentOK (L : LFormat) (s : LSentence) : Prop :=
  wfLT L s.term = true ∧ s.punct ∈ L.punctuations ∧ (s.stamp = [] ∨ StampOK L s.stamp) ∧
  (∀ x ∈ s.truth, numStrB x = true)

/-- values the lexical parser reads back: vocabulary-consistent terms, a punctuation mark of the format,
a stamp built from a stamp bracket pair, numeric truth / budget strings; a value without budget must not be
taken for one starting with a budget, and a bare term not for a line with right-hand items -/
def wfLN (L : LFormat) : LNarsese → Prop
  | .term t => wfLT L t = true ∧ TermTailOK L ((noSp L).fmtTerm t) ∧ L.segBudget ((noSp L).fmtTerm t) = none
  | .sentence s => SentOK L s ∧ L.segBudget ((noSp L).fmtSentence s) = none
  | .task k => SentOK L k.sentence ∧ ∀ x ∈ k.budget, numStrB x = true

section
variable {L : LFormat} (hI : LItemsOK L)
include hI

omit hI in
theorem noSp_fmtSentence (s : LSentence) :
    (noSp L).fmtSentence s = [] ++ (noSp L).fmtTerm s.term ++ s.punct ++ s.stamp ++ truTxt L s.truth := by
  simp only [fmtSentence, joinLest_nil3, noSp, fmtTruth, truTxt, List.nil_append, List.append_assoc]

omit hI in
/-- the budget is followed by the sentence without a space, or by nothing -/
theorem noSp_fmtTask (k : LTask) : (noSp L).fmtTask k = L.fmtBudget k.budget ++ (noSp L).fmtSentence k.sentence := by
  unfold fmtTask
  dsimp only
  split
  · next h => rw [List.isEmpty_iff.mp h, List.append_nil]; rfl
  · exact List.append_assoc _ [] _

theorem parse_sentence_noSp (s : LSentence) (hs : SentOK L s)
    (hnb : L.segBudget ((noSp L).fmtSentence s) = none) :
    (L.parseItems ((noSp L).fmtSentence s)).map LMid.fold = .ok (some (.sentence s)) := by
  obtain ⟨ht, hp, hst, htr⟩ := hs
  rw [noSp_fmtSentence] at hnb ⊢
  rw [parseItems_line hI [] none s.term ht s.punct hp s.stamp hst s.truth htr hnb rfl]
  simp only [Res.map, LMid.fold, Option.map_none, optL_getD]

theorem parse_task_noSp (k : LTask) (hs : SentOK L k.sentence) (hb : ∀ x ∈ k.budget, numStrB x = true) :
    (L.parseItems ((noSp L).fmtTask k)).map LMid.fold = .ok (some (.task k)) := by
  obtain ⟨ht, hp, hst, htr⟩ := hs
  have e : (noSp L).fmtTask k = (L.budgetL ++ joinWith L.budgetSep k.budget ++ L.budgetR) ++
      (noSp L).fmtTerm k.sentence.term ++ k.sentence.punct ++ k.sentence.stamp ++ truTxt L k.sentence.truth := by
    rw [noSp_fmtTask, noSp_fmtSentence]
    simp only [fmtBudget, List.nil_append, List.append_assoc]
  have hbud := segBudget_txt hI k.budget hb
    ((noSp L).fmtTerm k.sentence.term ++ k.sentence.punct ++ k.sentence.stamp ++ truTxt L k.sentence.truth)
  rw [e]
  rw [parseItems_line hI _ (some (k.budget, _)) k.sentence.term ht k.sentence.punct hp k.sentence.stamp hst
    k.sentence.truth htr (by simpa only [List.append_assoc] using hbud) rfl]
  simp only [Res.map, LMid.fold, Option.map_some, optL_getD]

theorem parse_term_noSp (t : LTerm) (ht : wfLT L t = true) (htail : TermTailOK L ((noSp L).fmtTerm t))
    (hnb : L.segBudget ((noSp L).fmtTerm t) = none) :
    (L.parseItems ((noSp L).fmtTerm t)).map LMid.fold = .ok (some (.term t)) := by
  obtain ⟨h1, h2, h3⟩ := htail
  have := parseItems_assemble L [] ((noSp L).fmtTerm t) [] [] [] none none none none t _ (by simpa using hnb) rfl
    (by simpa using h1) (fun _ => rfl) (by simpa using h2) (fun _ => rfl) (by simpa using h3) (fun _ => rfl)
    (fmtTerm_ne hI.base t ht) (segTerm_whole hI.base t ht)
  simp only [List.nil_append, List.append_nil] at this
  rw [this]
  simp [Res.map, LMid.fold]

theorem parse_noSp (v : LNarsese) (hv : wfLN L v) :
    (L.parseItems ((noSp L).fmtNarsese v)).map LMid.fold = .ok (some v) := by
  cases v with
  | term t => exact parse_term_noSp hI t hv.1 hv.2.1 hv.2.2
  | sentence s => exact parse_sentence_noSp hI s hv.1 hv.2
  | task k => exact parse_task_noSp hI k hv.1 hv.2

end

/-- no string of the value contains a character that `idealize_env` deletes -/
def wsFree (L : LFormat) (s : Str) : Bool := s.all (fun c => !L.isWs c)

mutual
  def wsFreeT (L : LFormat) : LTerm → Bool
    | .atom pre name => wsFree L pre && wsFree L name
    | .compound conn ts => wsFree L conn && wsFreeTs L ts
    | .set l ts r => wsFree L l && wsFree L r && wsFreeTs L ts
    | .stmt cop s p => wsFree L cop && wsFreeT L s && wsFreeT L p
  def wsFreeTs (L : LFormat) : LTerms → Bool
    | .nil => true
    | .cons t ts => wsFreeT L t && wsFreeTs L ts
end

def wsFreeS (L : LFormat) (s : LSentence) : Bool :=
  wsFreeT L s.term && wsFree L s.punct && wsFree L s.stamp && s.truth.all (wsFree L)

def wsFreeN (L : LFormat) : LNarsese → Bool
  | .term t => wsFreeT L t
  | .sentence s => wsFreeS L s
  | .task k => wsFreeS L k.sentence && k.budget.all (wsFree L)

/-- the formatter's own keywords survive `idealize_env`, its spaces do not -/
def lWsOKB (L : LFormat) : Bool :=
  L.removeSpaces && L.spaceTerms.all L.isWs && L.spaceItems.all L.isWs &&
  [L.compL, L.compR, L.separator, L.stmtL, L.stmtR, L.truthL, L.truthR, L.truthSep,
   L.budgetL, L.budgetR, L.budgetSep].all (wsFree L)

structure LWsFacts (L : LFormat) : Prop where
  removeSpaces : L.removeSpaces = true
  spaceTerms : ∀ c ∈ L.spaceTerms, L.isWs c = true
  spaceItems : ∀ c ∈ L.spaceItems, L.isWs c = true
  kw : ∀ k ∈ [L.compL, L.compR, L.separator, L.stmtL, L.stmtR, L.truthL, L.truthR, L.truthSep,
    L.budgetL, L.budgetR, L.budgetSep], wsFree L k = true

theorem ideal_nil {L : LFormat} : L.idealize [] = [] := by simp [idealize]

section
variable {L : LFormat} (hW : lWsOKB L = true)
include hW

theorem lWs_split : LWsFacts L := by
  simp only [lWsOKB, Bool.and_eq_true, List.all_eq_true] at hW
  exact ⟨hW.1.1.1, hW.1.1.2, hW.1.2, hW.2⟩

theorem ideal_append (a b : Str) : L.idealize (a ++ b) = L.idealize a ++ L.idealize b := by
  simp [idealize, (lWs_split hW).removeSpaces]

theorem ideal_free (k : Str) (h : wsFree L k = true) : L.idealize k = k := by
  simp only [idealize, (lWs_split hW).removeSpaces, if_true]
  apply List.filter_eq_self.mpr
  simpa [wsFree, List.all_eq_true] using h

theorem ideal_space (k : Str) (h : ∀ c ∈ k, L.isWs c = true) : L.idealize k = [] := by
  simp only [idealize, (lWs_split hW).removeSpaces, if_true]
  apply List.filter_eq_nil_iff.mpr
  intro c hc
  simp [h c hc]

theorem ideal_spaceTerms : L.idealize L.spaceTerms = [] := ideal_space hW _ (lWs_split hW).spaceTerms

theorem ideal_spaceItems : L.idealize L.spaceItems = [] := ideal_space hW _ (lWs_split hW).spaceItems

theorem ideal_kw {k : Str} (hk : k ∈ [L.compL, L.compR, L.separator, L.stmtL, L.stmtR, L.truthL, L.truthR,
    L.truthSep, L.budgetL, L.budgetR, L.budgetSep]) : L.idealize k = k :=
  ideal_free hW k ((lWs_split hW).kw k hk)

theorem ideal_join (sep sp : Str) (hsep : L.idealize sep = sep) (hsp : L.idealize sp = []) :
    ∀ xs : List Str, L.idealize (joinWith (sep ++ sp) xs) = joinWith sep (xs.map L.idealize)
  | [] => ideal_nil
  | [x] => by simp [joinWith]
  | x :: y :: r => by
    have ih := ideal_join sep sp hsep hsp (y :: r)
    simp only [joinWith, List.map_cons, ideal_append hW, hsep, hsp, List.append_nil] at ih ⊢
    rw [ih]

theorem ideal_joinComponents (xs : List Str) :
    L.idealize (L.joinComponents xs) = (noSp L).joinComponents (xs.map L.idealize) := by
  simpa only [joinComponents, noSp, List.append_nil] using
    ideal_join hW L.separator L.spaceTerms (ideal_kw hW (by simp)) (ideal_spaceTerms hW) xs

mutual
  theorem ideal_term : ∀ t : LTerm, wsFreeT L t = true → L.idealize (L.fmtTerm t) = (noSp L).fmtTerm t
    | .atom pre name, h => by
      simp only [wsFreeT, Bool.and_eq_true] at h
      simp only [fmtTerm, ideal_append hW, ideal_free hW _ h.1, ideal_free hW _ h.2]
    | .compound conn ts, h => by
      simp only [wsFreeT, Bool.and_eq_true] at h
      simp only [fmtTerm, ideal_append hW, ideal_free hW _ h.1, ideal_spaceTerms hW, ideal_joinComponents hW,
        ideal_terms ts h.2, ideal_kw hW (k := L.separator) (by simp), ideal_kw hW (k := L.compL) (by simp),
        ideal_kw hW (k := L.compR) (by simp), noSp, List.append_nil]
    | .set l ts r, h => by
      simp only [wsFreeT, Bool.and_eq_true] at h
      simp only [fmtTerm, ideal_append hW, ideal_free hW _ h.1.1, ideal_free hW _ h.1.2, ideal_joinComponents hW,
        ideal_terms ts h.2, noSp]
    | .stmt cop s p, h => by
      simp only [wsFreeT, Bool.and_eq_true] at h
      simp only [fmtTerm, ideal_append hW, ideal_free hW _ h.1.1, ideal_spaceTerms hW, ideal_term s h.1.2, ideal_term p h.2,
        ideal_kw hW (k := L.stmtL) (by simp), ideal_kw hW (k := L.stmtR) (by simp), noSp, List.append_nil]
  theorem ideal_terms : ∀ ts : LTerms, wsFreeTs L ts = true →
      (fmtTerms L ts).map L.idealize = fmtTerms (noSp L) ts
    | .nil, _ => by simp [fmtTerms]
    | .cons t ts, h => by
      simp only [wsFreeTs, Bool.and_eq_true] at h
      simp only [fmtTerms, List.map_cons, ideal_term t h.1, ideal_terms ts h.2]
end

omit hW in
theorem wsFree_append (a b : Str) : wsFree L (a ++ b) = (wsFree L a && wsFree L b) := by
  simp [wsFree, List.all_append]

omit hW in
theorem wsFree_join (sep : Str) (hs : wsFree L sep = true) : ∀ xs : List Str, xs.all (wsFree L) = true →
    wsFree L (joinWith sep xs) = true
  | [], _ => by simp [joinWith, wsFree]
  | [x], h => by simpa [joinWith] using h
  | x :: y :: r, h => by
    simp only [List.all_cons, Bool.and_eq_true] at h
    have ih := wsFree_join sep hs (y :: r) (by simp [h.2.1, h.2.2])
    simp only [joinWith, wsFree_append, h.1, hs, ih, Bool.and_self]

theorem ideal_truth (tr : List Str) (h : tr.all (wsFree L) = true) : L.idealize (L.fmtTruth tr) = truTxt L tr := by
  have hk := (lWs_split hW).kw
  unfold fmtTruth truTxt
  split
  · exact ideal_nil
  · apply ideal_free hW
    simp only [wsFree_append, hk L.truthL (by simp), hk L.truthR (by simp),
      wsFree_join L.truthSep (hk L.truthSep (by simp)) tr h, Bool.and_self]

theorem ideal_budget (b : List Str) (h : b.all (wsFree L) = true) : L.idealize (L.fmtBudget b) = (noSp L).fmtBudget b := by
  have hk := (lWs_split hW).kw
  show _ = L.fmtBudget b
  apply ideal_free hW
  simp only [fmtBudget, wsFree_append, hk L.budgetL (by simp), hk L.budgetR (by simp),
    wsFree_join L.budgetSep (hk L.budgetSep (by simp)) b h, Bool.and_self]

theorem ideal_sepItem (sp b : Str) (hsp : L.idealize sp = []) :
    L.idealize (if b.isEmpty then [] else sp ++ b) = L.idealize b := by
  split
  · next h => rw [List.isEmpty_iff.mp h]
  · rw [ideal_append hW, hsp, List.nil_append]

theorem ideal_joinLest (sp a b c : Str) (hsp : L.idealize sp = []) :
    L.idealize (joinLest sp [a, b, c]) = L.idealize a ++ (L.idealize b ++ L.idealize c) := by
  rw [joinLest_eq, ideal_append hW, ideal_append hW, ideal_sepItem hW sp b hsp, ideal_sepItem hW sp c hsp]

theorem ideal_sentence (s : LSentence) (h : wsFreeS L s = true) :
    L.idealize (L.fmtSentence s) = (noSp L).fmtSentence s := by
  simp only [wsFreeS, Bool.and_eq_true] at h
  obtain ⟨⟨⟨h1, h2⟩, h3⟩, h4⟩ := h
  rw [noSp_fmtSentence]
  unfold fmtSentence
  rw [ideal_append hW, ideal_joinLest hW _ _ _ _ (ideal_spaceItems hW), ideal_term hW s.term h1, ideal_free hW _ h2, ideal_free hW _ h3,
    ideal_truth hW s.truth h4]
  simp only [List.nil_append, List.append_assoc]

theorem ideal_narsese (v : LNarsese) (h : wsFreeN L v = true) :
    L.idealize (L.fmtNarsese v) = (noSp L).fmtNarsese v := by
  cases v with
  | term t => exact ideal_term hW t h
  | sentence s => exact ideal_sentence hW s h
  | task k =>
    simp only [wsFreeN, Bool.and_eq_true] at h
    have hb : L.idealize (L.fmtBudget k.budget) = L.fmtBudget k.budget := ideal_budget hW k.budget h.2
    show L.idealize (L.fmtTask k) = (noSp L).fmtTask k
    rw [noSp_fmtTask, ← ideal_sentence hW k.sentence h.1, ← hb, ← ideal_append hW]
    unfold fmtTask
    dsimp only
    split
    · next he => rw [List.isEmpty_iff.mp he, List.append_nil]
    · rw [ideal_append hW, ideal_append hW, ideal_spaceItems hW, List.append_nil, ← ideal_append hW]

end


/-- the lexical parser on ANY text whose idealization is the space-less print of a well-formed value:
the common core of the round trips on `L.fmtNarsese v`, on the enum formatter's output and on every spelling -/
theorem lparse_of_ideal {L : LFormat} (hI : LItemsOK L) (s : Str) (v : LNarsese) (hv : wfLN L v)
    (hs : L.idealize s = (noSp L).fmtNarsese v) : L.lparse s = .ok v := by
  have := parse_noSp hI v hv
  unfold lparse
  rw [hs]
  generalize L.parseItems ((noSp L).fmtNarsese v) = r at this ⊢
  cases r with
  | ok m => exact congrArg Res.ofOption (Res.ok.inj this)
  | _ => cases this

theorem lparse_fmtNarsese {L : LFormat} (hI : LItemsOK L) (hW : lWsOKB L = true) (v : LNarsese)
    (hv : wfLN L v) (hws : wsFreeN L v = true) : L.lparse (L.fmtNarsese v) = .ok v :=
  lparse_of_ideal hI _ v hv (ideal_narsese hW v hws)

theorem segBudget_none_of_not_pre (L : LFormat) (txt : Str) (h : isPre L.budgetL txt = false) :
    L.segBudget txt = none := by
  simp [segBudget, segBracketsPrefix, strip_none_of_not_isPre h]

end Narsese
