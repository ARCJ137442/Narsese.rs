/-
  `sem` is an equivalence relation (helper lemmas for C06 / C07).

  Two tools carry every proof about `sem`, `feed` and `eqImpl`: the induction principle `Term.induct`
  (component lists give a hypothesis for each member), and one lemma per constructor saying what
  `sem (constructor …) b = true` means for `b`.
-/
import NarseseModel.Sem
set_option autoImplicit false

namespace Narsese

/-- induction over terms: for a compound, the hypothesis holds of every component -/
theorem Term.induct {P : Term → Prop} (atom : ∀ k n, P (.atom k n)) (placeholder : P .placeholder)
    (interval : ∀ n, P (.interval n))
    (setlike : ∀ k ts, (∀ t ∈ ts.toList, P t) → P (.setlike k ts))
    (seqlike : ∀ k ts, (∀ t ∈ ts.toList, P t) → P (.seqlike k ts))
    (image : ∀ k i ts, (∀ t ∈ ts.toList, P t) → P (.image k i ts))
    (neg : ∀ t, P t → P (.neg t)) (bin : ∀ k a b, P a → P b → P (.bin k a b)) (t : Term) : P t :=
  Term.rec (motive_1 := P) (motive_2 := fun ts => ∀ t ∈ ts.toList, P t)
    atom placeholder interval setlike seqlike image neg bin
    nofun (fun _ _ ht hts x hx => (List.mem_cons.mp hx).elim (· ▸ ht) (hts x)) t

inductive All2 {α β : Type} (R : α → β → Prop) : List α → List β → Prop where
  | nil : All2 R [] []
  | cons {a b as bs} : R a b → All2 R as bs → All2 R (a :: as) (b :: bs)

def SameSet {α β : Type} (R : α → β → Prop) (as : List α) (bs : List β) : Prop :=
  (∀ a ∈ as, ∃ b ∈ bs, R a b) ∧ (∀ b ∈ bs, ∃ a ∈ as, R a b)

/-! Reflexivity, symmetry and transitivity lift from the members of the first list to `All2` and to `SameSet`
(members only: that is what an induction hypothesis over a component list provides). -/

theorem All2.refl_of {α : Type} {R : α → α → Prop} : ∀ {as : List α}, (∀ a ∈ as, R a a) → All2 R as as
  | [], _ => .nil
  | a :: _, h => .cons (h a (.head _)) (refl_of fun x hx => h x (.tail _ hx))

theorem All2.flip_of {α β : Type} {R : α → β → Prop} {S : β → α → Prop} :
    ∀ {as : List α} {bs : List β}, (∀ a ∈ as, ∀ b, R a b → S b a) → All2 R as bs → All2 S bs as
  | _, _, _, .nil => .nil
  | _, _, h, .cons r rest => .cons (h _ (.head _) _ r) (flip_of (fun a ha => h a (.tail _ ha)) rest)

theorem All2.trans_of {α : Type} {R : α → α → Prop} :
    ∀ {as bs cs : List α}, (∀ a ∈ as, ∀ b c, R a b → R b c → R a c) → All2 R as bs → All2 R bs cs → All2 R as cs
  | _, _, _, _, .nil, .nil => .nil
  | _, _, _, h, .cons r1 rest1, .cons r2 rest2 =>
      .cons (h _ (.head _) _ _ r1 r2) (trans_of (fun a ha => h a (.tail _ ha)) rest1 rest2)

theorem All2.length_eq {α β : Type} {R : α → β → Prop} : ∀ {as : List α} {bs : List β}, All2 R as bs → as.length = bs.length
  | _, _, .nil => rfl
  | _, _, .cons _ rest => congrArg (· + 1) (length_eq rest)

theorem SameSet.refl_of {α : Type} {R : α → α → Prop} {as : List α} (h : ∀ a ∈ as, R a a) : SameSet R as as :=
  ⟨fun a ha => ⟨a, ha, h a ha⟩, fun a ha => ⟨a, ha, h a ha⟩⟩

theorem SameSet.flip_of {α β : Type} {R : α → β → Prop} {S : β → α → Prop} {as : List α} {bs : List β}
    (h : ∀ a ∈ as, ∀ b, R a b → S b a) (hs : SameSet R as bs) : SameSet S bs as :=
  ⟨fun b hb => let ⟨a, ha, r⟩ := hs.2 b hb; ⟨a, ha, h a ha b r⟩,
   fun a ha => let ⟨b, hb, r⟩ := hs.1 a ha; ⟨b, hb, h a ha b r⟩⟩

theorem SameSet.trans_of {α : Type} {R : α → α → Prop} {as bs cs : List α}
    (h : ∀ a ∈ as, ∀ b c, R a b → R b c → R a c) (h1 : SameSet R as bs) (h2 : SameSet R bs cs) : SameSet R as cs :=
  ⟨fun a ha => let ⟨b, hb, r⟩ := h1.1 a ha; let ⟨c, hc, r'⟩ := h2.1 b hb; ⟨c, hc, h a ha b c r r'⟩,
   fun c hc => let ⟨b, hb, r'⟩ := h2.2 c hc; let ⟨a, ha, r⟩ := h1.2 b hb; ⟨a, ha, h a ha b c r r'⟩⟩

/-! ### what `sem t b = true` says about `b`, by the constructor of `t` -/

theorem subL_iff : ∀ (as : Terms) (bs : List Term), subL as bs = true ↔ ∀ a ∈ as.toList, ∃ b ∈ bs, sem a b = true
  | .nil, bs => by simp [subL, Terms.toList]
  | .cons a as, bs => by simp [subL, Terms.toList, subL_iff as bs]

theorem anyL_iff : ∀ (as : Terms) (b : Term), anyL as b = true ↔ ∃ a ∈ as.toList, sem a b = true
  | .nil, b => by simp [anyL, Terms.toList]
  | .cons a as, b => by simp [anyL, Terms.toList, anyL_iff as b]

theorem zipL_iff : ∀ (as : Terms) (bs : List Term), zipL as bs = true ↔ All2 (fun a b => sem a b = true) as.toList bs
  | .nil, [] => ⟨fun _ => .nil, fun _ => rfl⟩
  | .nil, _ :: _ => ⟨nofun, nofun⟩
  | .cons _ _, [] => ⟨nofun, nofun⟩
  | .cons a as, b :: bs => by
      simp only [zipL, Terms.toList, Bool.and_eq_true, zipL_iff as bs]
      exact ⟨fun ⟨h1, h2⟩ => .cons h1 h2, fun | .cons h1 h2 => ⟨h1, h2⟩⟩

theorem sem_atom_iff {k n b} : sem (.atom k n) b = true ↔ .atom k n = b := by
  cases b with
  | atom k' n' => simp only [sem, Bool.and_eq_true, beq_iff_eq, Term.atom.injEq]
  | _ => exact ⟨nofun, nofun⟩

theorem sem_placeholder_iff {b} : sem .placeholder b = true ↔ .placeholder = b := by
  cases b with
  | placeholder => exact ⟨fun _ => rfl, fun _ => rfl⟩
  | _ => exact ⟨nofun, nofun⟩

theorem sem_interval_iff {n b} : sem (.interval n) b = true ↔ .interval n = b := by
  cases b with
  | interval m => simp only [sem, beq_iff_eq, Term.interval.injEq]
  | _ => exact ⟨nofun, nofun⟩

theorem sem_setlike_iff {k as b} : sem (.setlike k as) b = true ↔
    ∃ bs, .setlike k bs = b ∧ SameSet (fun a b => sem a b = true) as.toList bs.toList := by
  cases b with
  | setlike k' bs =>
    simp only [sem, Bool.and_eq_true, beq_iff_eq, subL_iff, List.all_eq_true, anyL_iff, Term.setlike.injEq]
    exact ⟨fun ⟨hk, h⟩ => ⟨bs, ⟨hk, rfl⟩, h⟩, fun ⟨_, ⟨hk, e⟩, h⟩ => ⟨hk, e ▸ h⟩⟩
  | _ => exact ⟨nofun, fun ⟨_, h, _⟩ => nomatch h⟩

theorem sem_seqlike_iff {k as b} : sem (.seqlike k as) b = true ↔
    ∃ bs, .seqlike k bs = b ∧ All2 (fun a b => sem a b = true) as.toList bs.toList := by
  cases b with
  | seqlike k' bs =>
    simp only [sem, Bool.and_eq_true, beq_iff_eq, zipL_iff, Term.seqlike.injEq]
    exact ⟨fun ⟨hk, h⟩ => ⟨bs, ⟨hk, rfl⟩, h⟩, fun ⟨_, ⟨hk, e⟩, h⟩ => ⟨hk, e ▸ h⟩⟩
  | _ => exact ⟨nofun, fun ⟨_, h, _⟩ => nomatch h⟩

theorem sem_image_iff {k i as b} : sem (.image k i as) b = true ↔
    ∃ bs, .image k i bs = b ∧ All2 (fun a b => sem a b = true) as.toList bs.toList := by
  cases b with
  | image k' j bs =>
    simp only [sem, Bool.and_eq_true, beq_iff_eq, zipL_iff, Term.image.injEq]
    exact ⟨fun ⟨hk, hi, h⟩ => ⟨bs, ⟨hk, hi, rfl⟩, h⟩, fun ⟨_, ⟨hk, hi, e⟩, h⟩ => ⟨hk, hi, e ▸ h⟩⟩
  | _ => exact ⟨nofun, fun ⟨_, h, _⟩ => nomatch h⟩

theorem sem_neg_iff {a b} : sem (.neg a) b = true ↔ ∃ b', .neg b' = b ∧ sem a b' = true := by
  cases b with
  | neg b' => simp only [sem, Term.neg.injEq, exists_eq_left]
  | _ => exact ⟨nofun, fun ⟨_, h, _⟩ => nomatch h⟩

theorem sem_bin_iff {k a₁ a₂ b} : sem (.bin k a₁ a₂) b = true ↔ ∃ b₁ b₂, .bin k b₁ b₂ = b ∧
    (sem a₁ b₁ = true ∧ sem a₂ b₂ = true ∨ k.symmetric = true ∧ sem a₁ b₂ = true ∧ sem a₂ b₁ = true) := by
  cases b with
  | bin k' b₁ b₂ =>
    have : sem (.bin k a₁ a₂) (.bin k' b₁ b₂) = true ↔ k = k' ∧
        (sem a₁ b₁ = true ∧ sem a₂ b₂ = true ∨ k.symmetric = true ∧ sem a₁ b₂ = true ∧ sem a₂ b₁ = true) := by
      cases hk : k.symmetric <;>
        simp only [sem, hk, Bool.and_eq_true, Bool.or_eq_true, beq_iff_eq, if_true, Bool.false_eq_true, if_false,
          false_and, or_false, true_and]
    rw [this]
    exact ⟨fun ⟨hk, h⟩ => ⟨b₁, b₂, hk ▸ rfl, h⟩, fun ⟨_, _, e, h⟩ => by cases e; exact ⟨rfl, h⟩⟩
  | _ => exact ⟨nofun, fun ⟨_, _, h, _⟩ => nomatch h⟩

theorem sem_refl : ∀ t : Term, sem t t = true := by
  intro t
  induction t using Term.induct with
  | atom k n => exact sem_atom_iff.mpr rfl
  | placeholder => rfl
  | interval n => exact sem_interval_iff.mpr rfl
  | setlike k ts ih => exact sem_setlike_iff.mpr ⟨ts, rfl, .refl_of ih⟩
  | seqlike k ts ih => exact sem_seqlike_iff.mpr ⟨ts, rfl, .refl_of ih⟩
  | image k i ts ih => exact sem_image_iff.mpr ⟨ts, rfl, .refl_of ih⟩
  | neg t ih => exact sem_neg_iff.mpr ⟨t, rfl, ih⟩
  | bin k a b iha ihb => exact sem_bin_iff.mpr ⟨a, b, rfl, .inl ⟨iha, ihb⟩⟩

theorem seq_refl : ∀ (ts : Terms), All2 (fun a b => sem a b = true) ts.toList ts.toList :=
  fun _ => .refl_of fun a _ => sem_refl a

theorem sem_symm_imp : ∀ (a b : Term), sem a b = true → sem b a = true := by
  intro a
  induction a using Term.induct with
  | atom k n => intro b h; rw [← sem_atom_iff.mp h]; exact sem_atom_iff.mpr rfl
  | placeholder => intro b h; rw [← sem_placeholder_iff.mp h]; rfl
  | interval n => intro b h; rw [← sem_interval_iff.mp h]; exact sem_interval_iff.mpr rfl
  | setlike k as ih =>
    intro b h; obtain ⟨bs, rfl, hs⟩ := sem_setlike_iff.mp h
    exact sem_setlike_iff.mpr ⟨as, rfl, hs.flip_of ih⟩
  | seqlike k as ih =>
    intro b h; obtain ⟨bs, rfl, hs⟩ := sem_seqlike_iff.mp h
    exact sem_seqlike_iff.mpr ⟨as, rfl, hs.flip_of ih⟩
  | image k i as ih =>
    intro b h; obtain ⟨bs, rfl, hs⟩ := sem_image_iff.mp h
    exact sem_image_iff.mpr ⟨as, rfl, hs.flip_of ih⟩
  | neg a ih =>
    intro b h; obtain ⟨b', rfl, hs⟩ := sem_neg_iff.mp h
    exact sem_neg_iff.mpr ⟨a, rfl, ih b' hs⟩
  | bin k a₁ a₂ ih₁ ih₂ =>
    intro b h; obtain ⟨b₁, b₂, rfl, hs⟩ := sem_bin_iff.mp h
    refine sem_bin_iff.mpr ⟨a₁, a₂, rfl, ?_⟩
    rcases hs with ⟨h1, h2⟩ | ⟨hk, h1, h2⟩
    · exact .inl ⟨ih₁ _ h1, ih₂ _ h2⟩
    · exact .inr ⟨hk, ih₂ _ h2, ih₁ _ h1⟩

theorem sem_symm : ∀ (a b : Term), sem a b = sem b a := fun a b =>
  Bool.eq_iff_iff.mpr ⟨sem_symm_imp a b, sem_symm_imp b a⟩

theorem sems_symm : ∀ (as : Terms) (a : Term), a ∈ as.toList → ∀ b, sem a b = sem b a :=
  fun _ a _ b => sem_symm a b

theorem sem_trans : ∀ (a b c : Term), sem a b = true → sem b c = true → sem a c = true := by
  intro a
  induction a using Term.induct with
  | atom k n => intro b c h1 h2; rwa [← sem_atom_iff.mp h1] at h2
  | placeholder => intro b c h1 h2; rwa [← sem_placeholder_iff.mp h1] at h2
  | interval n => intro b c h1 h2; rwa [← sem_interval_iff.mp h1] at h2
  | setlike k as ih =>
    intro b c h1 h2
    obtain ⟨bs, rfl, s1⟩ := sem_setlike_iff.mp h1
    obtain ⟨cs, rfl, s2⟩ := sem_setlike_iff.mp h2
    exact sem_setlike_iff.mpr ⟨cs, rfl, .trans_of ih s1 s2⟩
  | seqlike k as ih =>
    intro b c h1 h2
    obtain ⟨bs, rfl, s1⟩ := sem_seqlike_iff.mp h1
    obtain ⟨cs, rfl, s2⟩ := sem_seqlike_iff.mp h2
    exact sem_seqlike_iff.mpr ⟨cs, rfl, .trans_of ih s1 s2⟩
  | image k i as ih =>
    intro b c h1 h2
    obtain ⟨bs, rfl, s1⟩ := sem_image_iff.mp h1
    obtain ⟨cs, rfl, s2⟩ := sem_image_iff.mp h2
    exact sem_image_iff.mpr ⟨cs, rfl, .trans_of ih s1 s2⟩
  | neg a ih =>
    intro b c h1 h2
    obtain ⟨b', rfl, s1⟩ := sem_neg_iff.mp h1
    obtain ⟨c', rfl, s2⟩ := sem_neg_iff.mp h2
    exact sem_neg_iff.mpr ⟨c', rfl, ih _ _ s1 s2⟩
  | bin k a₁ a₂ ih₁ ih₂ =>
    intro b c h1 h2
    obtain ⟨b₁, b₂, rfl, s1⟩ := sem_bin_iff.mp h1
    obtain ⟨c₁, c₂, rfl, s2⟩ := sem_bin_iff.mp h2
    refine sem_bin_iff.mpr ⟨c₁, c₂, rfl, ?_⟩
    -- straight·straight and crossed·crossed are straight; the mixed ones are crossed
    rcases s1 with ⟨p, q⟩ | ⟨hk, p, q⟩ <;> rcases s2 with ⟨p', q'⟩ | ⟨_, p', q'⟩
    · exact .inl ⟨ih₁ _ _ p p', ih₂ _ _ q q'⟩
    · exact .inr ⟨‹_›, ih₁ _ _ p p', ih₂ _ _ q q'⟩
    · exact .inr ⟨hk, ih₁ _ _ p q', ih₂ _ _ q p'⟩
    · exact .inl ⟨ih₁ _ _ p q', ih₂ _ _ q p'⟩

theorem sems_trans : ∀ (as : Terms) (a : Term), a ∈ as.toList → ∀ b c, sem a b = true → sem b c = true → sem a c = true :=
  fun _ a _ b c => sem_trans a b c

end Narsese
