/-
  The enum ASCII formatter prints, character for character, what the lexical formatter prints
  for the lexical image of the value (when the two formatting blanks coincide, as they do in ASCII) — so the
  conformance of the lexical formatter's output covers the enum formatter's output.
-/
import Proofs.Pipelines.ToLex
set_option autoImplicit false

namespace Narsese
open EFormat

section
variable {F : EFormat} {L : LFormat} (hA : Agree F L) (hsp : F.spaceTerms = F.spaceItems)
include hA hsp

theorem efmtSentence_eq (s : Sentence) : F.fmtSentence s = L.fmtSentence (toLexSentence F s) := by
  unfold EFormat.fmtSentence LFormat.fmtSentence
  rw [joinLest_E, joinLest_eq, joinLest_eq]
  simp only [toLexSentence, fmt_toLex hA, fmtTruth_toLex hA, hA.spaceItems, hsp]

theorem efmt_eq_lfmt (v : Narsese) : F.fmtNarsese v = L.fmtNarsese (toLexN F v) := by
  cases v with
  | term t => simp only [EFormat.fmtNarsese, LFormat.fmtNarsese, toLexN, fmt_toLex hA]
  | sentence s => exact efmtSentence_eq hA hsp s
  | task k =>
    simp only [EFormat.fmtNarsese, LFormat.fmtNarsese, toLexN, EFormat.fmtTask, LFormat.fmtTask]
    rw [efmtSentence_eq hA hsp k.sentence, fmtBudget_toLex hA, hA.spaceItems]

end

end Narsese
