/-
  The items around the term — `truth_budget_term`, the number lists of `truth` and
  `budget_content`, `budget`, `stamp`, `punctuation`.
-/
import Proofs.Peg.Term
set_option autoImplicit false

namespace Narsese.Peg
open LFormat

/-! ### `truth_budget_term` -/

def tbtBody : Peg := .plus (.alt (.cls "ASCII_DIGIT") (.lit ['.']))

theorem rule_tbt :
    RG.rule? "truth_budget_term" = some { name := "truth_budget_term", mod := .atomic, body := tbtBody } := by
  decide +kernel

theorem single_dd : Single (.alt (.cls "ASCII_DIGIT") (.lit ['.'])) ddB :=
  (single_alt (single_cls _ _ cls_digit) (single_lit '.')).congr (fun c => by simp only [ddB, BEq.comm (a := '.')])

def tbtTok (x : Str) : PTree := .node "truth_budget_term" x []

theorem ev_tbt (x rest : Str) (hx : gNumB x = true) (hr : ∀ c ∈ rest.head?, ddB c = false) :
    Ev RG false (.ref "truth_budget_term") (x ++ rest) (some (rest, [tbtTok x])) := by
  simp only [gNumB, Bool.and_eq_true, Bool.not_eq_true', List.isEmpty_eq_false_iff] at hx
  exact ev_ref_tokA rule_tbt rfl (plus_run single_dd rest hx.1 hx.2 hr)

theorem ev_tbt_fail (s : Str) (hs : ∀ c ∈ s.head?, ddB c = false) : Ev RG false (.ref "truth_budget_term") s none :=
  ev_ref_no rule_tbt (Ev.plus_fail true _ _ (single_dd.miss hs))

theorem dd_not_ws {c : Char} (h : ddB c = true) : wsB c = false := by
  simp only [ddB, Bool.or_eq_true, beq_iff_eq] at h
  rcases h with h | h
  · exact disjoint_ranges (t1 := [(48, 57)]) (by decide +kernel) h
  · subst h; decide +kernel

theorem gNum_head {x : Str} (h : gNumB x = true) : ∃ c cs, x = c :: cs ∧ ddB c = true := by
  cases x with
  | nil => simp [gNumB] at h
  | cons c cs =>
    simp only [gNumB, List.isEmpty_cons, Bool.not_false, Bool.true_and, List.all_cons, Bool.and_eq_true] at h
    exact ⟨c, cs, rfl, h.1⟩

theorem noWs_num {x : Str} (h : gNumB x = true) (rest : Str) : NoWs (x ++ rest) := by
  obtain ⟨c, cs, rfl, hc⟩ := gNum_head h
  exact noWs_cons (dd_not_ws hc)

/-! ### number lists: `tbt ~ (";" ~ tbt)* ~ ";"*` -/

def semiTbt : Peg := .seq (.lit [';']) (.ref "truth_budget_term")
def numsBody : Peg := .seq (.seq (.ref "truth_budget_term") (.star semiTbt)) (.star (.lit [';']))

def semi : Str := [';']

theorem noWs_nums {x : Str} (h : gNumB x = true) (xs : List Str) (rest : Str) : NoWs (joinWith semi (x :: xs) ++ rest) := by
  rw [joinWith_cons_tail, List.append_assoc]
  exact noWs_num h _

/-- what closes a number list: `%` or `$` -/
def closeNumB (rest : Str) : Bool :=
  match rest with
  | c :: _ => !ddB c && !wsB c && !(c == ';')
  | [] => false

theorem closeNum_facts {rest : Str} (h : closeNumB rest = true) :
    NoWs rest ∧ (∀ c ∈ rest.head?, ddB c = false) ∧ (∀ c ∈ rest.head?, ';' ≠ c) := by
  cases rest with
  | nil => simp [closeNumB] at h
  | cons c cs =>
    simp only [closeNumB, Bool.and_eq_true, Bool.not_eq_true', beq_eq_false_iff_ne] at h
    exact ⟨noWs_cons h.1.2, by simpa using h.1.1, by simpa using fun e => h.2 e.symm⟩

theorem ws_semi : wsB ';' = false := by decide +kernel

theorem tailNum_facts (xs : List Str) {rest : Str} (h : closeNumB rest = true) :
    NoWs (tailL semi xs ++ rest) ∧ ∀ c ∈ (tailL semi xs ++ rest).head?, ddB c = false := by
  cases xs with
  | nil => simpa [tailL] using ⟨(closeNum_facts h).1, (closeNum_facts h).2.1⟩
  | cons x xs =>
    simp only [tailL, semi, List.cons_append, List.nil_append, List.append_assoc]
    exact ⟨noWs_cons ws_semi, fun c hc => by cases hc; decide +kernel⟩

theorem many_semi (xs : List Str) (rest : Str) (hxs : ∀ x ∈ xs, gNumB x = true) (hr : closeNumB rest = true)
    (acc : List PTree) : Many RG false semiTbt (tailL semi xs ++ rest) acc (rest, acc ++ xs.map tbtTok) := by
  induction xs generalizing acc with
  | nil =>
    have hf := closeNum_facts hr
    have := Many.stop_fail false semiTbt rest rest acc (skip_none false hf.1)
      (Ev.seq_fail _ _ _ _ (ev_lit1_fail false ';' rest hf.2.2))
    simpa [tailL] using this
  | cons x xs ih =>
    have hx := hxs x (by simp)
    have e : tailL semi (x :: xs) ++ rest = ';' :: (x ++ (tailL semi xs ++ rest)) := by
      simp only [tailL, semi, List.append_assoc, List.cons_append, List.nil_append]
    rw [e]
    have h12 := (ev_lit1_hit false ';' _).andThen (skip_none false (noWs_num hx _))
      (ev_tbt x (tailL semi xs ++ rest) hx (tailNum_facts xs hr).2) rfl
    have := Many.step false semiTbt _ _ _ _ acc _ (skip_none false (noWs_cons ws_semi)) h12
      (by simp only [List.length_cons, List.length_append]; omega)
      (ih (fun y hy => hxs y (by simp [hy])) (acc ++ [tbtTok x]))
    simpa using this

theorem ev_nums (x : Str) (xs : List Str) (rest : Str) (hxs : ∀ y ∈ x :: xs, gNumB y = true) (hr : closeNumB rest = true) :
    Ev RG false numsBody (joinWith semi (x :: xs) ++ rest) (some (rest, (x :: xs).map tbtTok)) := by
  rw [joinWith_cons_tail, List.append_assoc]
  have hf := closeNum_facts hr
  have hh := tailNum_facts xs hr
  exact ((ev_tbt x _ (hxs x (by simp)) hh.2).andThen (skip_none false hh.1)
      (Ev.star false semiTbt _ _ (many_semi xs rest (fun y hy => hxs y (by simp [hy])) hr [])) rfl).andThen
    (skip_none false hf.1)
    (Ev.star _ _ _ _ (Many.stop_fail false _ rest rest [] (skip_none false hf.1) (ev_lit1_fail false ';' rest hf.2.2)))
    (by simp)

theorem nums_fail (s : Str) (hs : ∀ c ∈ s.head?, ddB c = false) : Ev RG false numsBody s none :=
  ev_first_fail (ev_tbt_fail s hs)

/-! ### `truth` -/

def truthBody : Peg := .seq (.seq (.lit ['%']) numsBody) (.lit ['%'])

theorem rule_truth : RG.rule? "truth" = some { name := "truth", mod := .normal, body := truthBody } := by decide +kernel

def truthTxt (xs : List Str) : Str := '%' :: (joinWith semi xs ++ ['%'])

theorem ev_truth (x : Str) (xs : List Str) (rest : Str) (hxs : ∀ y ∈ x :: xs, gNumB y = true) :
    Ev RG false (.ref "truth") (truthTxt (x :: xs) ++ rest)
      (some (rest, [.node "truth" (truthTxt (x :: xs)) ((x :: xs).map tbtTok)])) := by
  refine ev_ref_tok rule_truth rfl ?_
  have e : truthTxt (x :: xs) ++ rest = '%' :: (joinWith semi (x :: xs) ++ '%' :: rest) := by
    simp only [truthTxt, List.cons_append, List.append_assoc, List.nil_append]
  rw [e]
  exact ev_between (noWs_nums (hxs x (by simp)) xs _) (by decide +kernel)
    (ev_nums x xs ('%' :: rest) hxs (by simp only [closeNumB]; decide +kernel))

theorem truth_fail (s : Str) (h : ∀ c ∈ s.head?, '%' ≠ c) : Ev RG false (.ref "truth") s none :=
  ev_ref_no rule_truth (ev_first_fail (ev_lit1_fail false '%' s h))

/-! ### `budget` -/

def bcBody : Peg := .alt numsBody (.lit [])

theorem rule_bc : RG.rule? "budget_content" = some { name := "budget_content", mod := .normal, body := bcBody } := by
  decide +kernel

def budgetBody : Peg := .seq (.seq (.lit ['$']) (.ref "budget_content")) (.lit ['$'])

theorem rule_budget : RG.rule? "budget" = some { name := "budget", mod := .normal, body := budgetBody } := by
  decide +kernel

def budgetTxt (b : List Str) : Str := '$' :: (joinWith semi b ++ ['$'])

def budgetTree (b : List Str) : PTree :=
  .node "budget" (budgetTxt b) [.node "budget_content" (joinWith semi b) (b.map tbtTok)]

theorem ev_budget (b : List Str) (rest : Str) (hb : ∀ y ∈ b, gNumB y = true) :
    Ev RG false (.ref "budget") (budgetTxt b ++ rest) (some (rest, [budgetTree b])) := by
  refine ev_ref_tok rule_budget rfl ?_
  have hcl : closeNumB ('$' :: rest) = true := by simp only [closeNumB]; decide +kernel
  have hbc : Ev RG false (.ref "budget_content") (joinWith semi b ++ '$' :: rest)
      (some ('$' :: rest, [.node "budget_content" (joinWith semi b) (b.map tbtTok)])) := by
    refine ev_ref_tok rule_bc rfl ?_
    cases b with
    | nil => exact ev_alt_r (nums_fail _ fun c hc => by cases hc; decide +kernel) (ev_lit_empty false _)
    | cons x xs => exact ev_alt_l (ev_nums x xs ('$' :: rest) hb hcl)
  have hnw : NoWs (joinWith semi b ++ '$' :: rest) := by
    cases b with
    | nil => exact noWs_cons (by decide +kernel)
    | cons x xs => exact noWs_nums (hb x (by simp)) xs _
  have e : budgetTxt b ++ rest = '$' :: (joinWith semi b ++ '$' :: rest) := by
    simp only [budgetTxt, List.cons_append, List.append_assoc, List.nil_append]
  rw [e]
  exact ev_between hnw (by decide +kernel) hbc

/-! ### `stamp` -/

def stampStep : Peg := .seq (.neg (.lit [':'])) (.cls "ANY")
def stampBody : Peg := .seq (.seq (.lit [':']) (.plus stampStep)) (.lit [':'])

theorem rule_stamp : RG.rule? "stamp" = some { name := "stamp", mod := .normal, body := stampBody } := by decide +kernel

theorem any_char (c : Char) : inRanges [(0, 1114111)] c = true := by
  have : c.toNat ≤ 1114111 := by
    rcases c.valid with h | h
    · exact Nat.le_of_lt (Nat.lt_trans h (by decide))
    · exact Nat.le_of_lt_succ h.2
  simp [inRanges, this]

theorem ws_colon : wsB ':' = false := by decide +kernel

theorem stampCh_iff {c : Char} : stampCh c = true ↔ c ≠ ':' ∧ wsB c = false ∧ c ≠ '$' := by
  simp only [stampCh, Bool.and_eq_true, Bool.not_eq_true', beq_eq_false_iff_ne, and_assoc]

theorem stampCh_ws {c : Char} (h : stampCh c = true) : wsB c = false := (stampCh_iff.mp h).2.1

theorem ev_stampStep {c : Char} (s : Str) (hc : stampCh c = true) :
    Ev RG false stampStep (c :: s) (some (s, [])) := by
  have h1 : Ev RG false (.neg (.lit [':'])) (c :: s) (some (c :: s, [])) :=
    Ev.neg_none _ _ _ (ev_lit1_miss false ':' c s (stampCh_iff.mp hc).1.symm)
  have h2 : Ev RG false (.cls "ANY") (c :: s) (some (s, [])) := by
    simpa [any_char c] using ev_cls_cons (G := RG) false "ANY" _ cls_any c s
  exact ev_seq_ok h1 (skip_none false (noWs_cons (stampCh_ws hc))) h2

theorem many_stamp (mid rest : Str) (hm : mid.all stampCh = true) (acc : List PTree) :
    Many RG false stampStep (mid ++ ':' :: rest) acc (':' :: rest, acc) :=
  many_each mid acc
    (fun c _ h =>
      have hc := List.all_eq_true.mp hm c (h.subset List.mem_cons_self)
      ⟨skip_none false (noWs_cons (stampCh_ws hc)), ev_stampStep _ hc⟩)
    (skip_none false (noWs_cons ws_colon)) (Ev.seq_fail _ _ _ _ (Ev.neg_some _ _ _ _ (ev_lit1_hit false ':' rest)))

theorem ev_stamp (mid rest : Str) (hne : mid ≠ []) (hm : mid.all stampCh = true) :
    Ev RG false (.ref "stamp") (stampTxt mid ++ rest) (some (rest, [.node "stamp" (stampTxt mid) []])) := by
  refine ev_ref_tok rule_stamp rfl ?_
  have e : stampTxt mid ++ rest = ':' :: (mid ++ ':' :: rest) := by
    simp only [stampTxt, List.cons_append, List.append_assoc, List.nil_append]
  rw [e]
  cases mid with
  | nil => exact absurd rfl hne
  | cons c cs =>
    simp only [List.all_cons, Bool.and_eq_true] at hm
    exact ev_between (noWs_cons (stampCh_ws hm.1)) ws_colon
      (Ev.plus false _ _ _ [] _ (ev_stampStep _ hm.1) (many_stamp cs rest hm.2 []))

theorem stamp_fail (s : Str) (h : ∀ c ∈ s.head?, ':' ≠ c) : Ev RG false (.ref "stamp") s none :=
  ev_ref_no rule_stamp (ev_first_fail (ev_lit1_fail false ':' s h))

/-! ### `punctuation` -/

theorem rule_punctuation : RG.rule? "punctuation" =
    some { name := "punctuation", mod := .normal, body := .alt (.cls "PUNCTUATION") (.cls "SYMBOL") } := by decide +kernel

theorem ev_punct (c : Char) (rest : Str) (hc : psB c = true) :
    Ev RG false (.ref "punctuation") ([c] ++ rest) (some (rest, [.node "punctuation" [c] []])) := by
  refine ev_ref_tok rule_punctuation rfl ?_
  have h1 := ev_cls_cons (G := RG) false "PUNCTUATION" _ cls_punct c rest
  have h2 := ev_cls_cons (G := RG) false "SYMBOL" _ cls_symbol c rest
  have := ev_alt h1 h2
  simp only [psB, Bool.or_eq_true] at hc
  by_cases hp : inRanges Gen.clsPunct c = true
  · simpa [hp] using this
  · have hs : inRanges Gen.clsSymbol c = true := by rcases hc with h | h; exact absurd h hp; exact h
    simpa [hp, hs] using this

theorem punct_nil : Ev RG false (.ref "punctuation") [] none :=
  ev_ref_no rule_punctuation (ev_alt_r (Ev.cls_eof _ _) (Ev.cls_eof _ _))

end Narsese.Peg
