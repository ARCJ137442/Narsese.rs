/-
  The remaining grammar-side conditions follow from the lexical well-formedness of C02 as well —
  the stamp shape (`gStampB`, from `stampOKB` and the format's stamp brackets) and the `$` condition
  (`dollarOKB`). What is left as a hypothesis on the value is only the restriction on NAMES (`gNamesB`).
-/
import Proofs.Peg.Vocab
import Proofs.Peg.Whole
set_option autoImplicit false

namespace Narsese.Peg
open LFormat

/-! ### stamps -/

/-- one stamp bracket pair of the format, as the grammar's `stamp` rule needs it -/
def stampBracketB (p : Str × Str) : Bool :=
  if p.1.isEmpty then gStampB p.2 && !p.2.isEmpty
  else p.1.head? == some ':' && (p.1.drop 1).all stampCh && !(p.1.drop 1).isEmpty && p.2.getLast? == some ':' &&
    p.2.dropLast.all stampCh

/-- every stamp bracket pair is as `stamp` needs it, and no stamp character of the format is `:` (58), `$` (36) or
a blank — that is `stampCh` (`stampCh_of_tbl`) -/
def stampFactsB (L : LFormat) : Bool :=
  L.stampBrackets.all stampBracketB && disjointB L.isStampTbl [(58, 58)] && disjointB L.isStampTbl [(36, 36)] &&
  disjointB L.isStampTbl Gen.clsWhite

theorem stampCh_of_tbl {L : LFormat} (h : stampFactsB L = true) {c : Char} (hc : inRanges L.isStampTbl c = true) :
    stampCh c = true := by
  simp only [stampFactsB, Bool.and_eq_true] at h
  obtain ⟨⟨⟨_, h1⟩, h2⟩, h3⟩ := h
  have a1 := disjoint_ranges h1 hc
  have a2 := disjoint_ranges h2 hc
  refine stampCh_iff.mpr ⟨?_, disjoint_ranges h3 hc, ?_⟩
  · intro e; subst e; revert a1; decide
  · intro e; subst e; revert a2; decide

theorem gStamp_mk (mid : Str) (hne : mid ≠ []) (hm : mid.all stampCh = true) : gStampB (stampTxt mid) = true := by
  have e : stampMidOf (stampTxt mid) = mid := by
    simp only [stampMidOf, stampTxt, List.drop_succ_cons, List.drop_zero, List.dropLast_concat]
  simp only [gStampB, e, Bool.or_eq_true, Bool.and_eq_true, beq_iff_eq, Bool.not_eq_true']
  exact Or.inr ⟨⟨trivial, by simpa using hne⟩, hm⟩

theorem gStamp_of_ok {L : LFormat} (h : stampFactsB L = true) {st : Str} (hs : StampOK L st) : gStampB st = true := by
  obtain ⟨j, l, r, content, hj, hst, _, hcont, hl0, _⟩ := hs
  have hb : stampBracketB (l, r) = true := by
    have h' := h
    simp only [stampFactsB, Bool.and_eq_true, List.all_eq_true] at h'
    exact h'.1.1.1 (l, r) (List.mem_of_getElem? hj)
  simp only [stampBracketB] at hb
  by_cases hl : l = []
  · subst hl
    have hc := hl0 rfl
    subst hc
    simp only [List.isEmpty_nil, if_true, Bool.and_eq_true] at hb
    simpa [hst] using hb.1
  · have hl' : l.isEmpty = false := by simpa using hl
    simp only [hl', Bool.false_eq_true, if_false, Bool.and_eq_true, beq_iff_eq, Bool.not_eq_true'] at hb
    obtain ⟨⟨⟨⟨h1, h2⟩, h3⟩, h4⟩, h5⟩ := hb
    obtain ⟨lt, elt⟩ := List.head?_eq_some_iff.mp h1
    obtain ⟨r', er⟩ := List.getLast?_eq_some_iff.mp h4
    subst elt er
    simp only [List.drop_succ_cons, List.drop_zero] at h2 h3
    simp only [List.dropLast_concat] at h5
    have e : st = stampTxt (lt ++ content ++ r') := by
      simp only [hst, stampTxt, List.cons_append, List.append_assoc]
    rw [e]
    refine gStamp_mk _ ?_ ?_
    · intro e0
      have : lt = [] := by
        cases lt with
        | nil => rfl
        | cons a b => simp at e0
      exact absurd this (by simpa using h3)
    · simp only [List.all_append, Bool.and_eq_true]
      refine ⟨⟨h2, ?_⟩, h5⟩
      rw [List.all_eq_true]
      intro c hc
      exact stampCh_of_tbl h (hcont c hc)

/-! ### `$` -/

theorem not_mem_of_all {f : Char → Bool} {c : Char} {x : Str} (hx : x.all f = true) (hc : f c = false) : c ∉ x :=
  fun hm => by rw [List.all_eq_true.mp hx c hm] at hc; cases hc

theorem no_dollar_num {x : Str} (h : gNumB x = true) : '$' ∉ x :=
  not_mem_of_all (f := ddB) (by simp only [gNumB, Bool.and_eq_true] at h; exact h.2) (by decide +kernel)

theorem no_dollar_name {x : Str} (h : gNameOKB x = true) : '$' ∉ x :=
  not_mem_of_all (f := acB) (by simp only [gNameOKB, tailOKB, Bool.and_eq_true] at h; exact h.2.1.1) (by decide +kernel)

theorem no_dollar_tt {tr : List Str} (h : tr.all gNumB = true) : '$' ∉ ttOf tr := by
  unfold ttOf
  split
  · exact List.not_mem_nil
  · intro hm
    have hj : '$' ∈ joinWith semi tr := by simpa [truthTxt] using hm
    rcases mem_joinWith hj with h' | ⟨x, hx, hc⟩
    · simp [semi] at h'
    · exact no_dollar_num (List.all_eq_true.mp h x hx) hc

theorem no_dollar_stamp {st : Str} (h : gStampB st = true) : '$' ∉ st := by
  rcases gStamp_cases h with h0 | ⟨mid, e, _, hm⟩
  · subst h0; simp
  · subst e
    intro hd
    have hd : '$' ∈ mid := by simpa [stampTxt] using hd
    exact (stampCh_iff.mp (List.all_eq_true.mp hm _ hd)).2.2 rfl

theorem no_dollar_optSp {x : Str} (h : '$' ∉ x) : '$' ∉ optSp x := by
  unfold optSp
  split
  · exact List.not_mem_nil
  · simpa using h

/-- prefixes and punctuation marks of the format contain no `$` beyond a leading one -/
def dollarFactsB (L : LFormat) : Bool :=
  L.atomPrefixes.all (fun p => !(p.drop 1).contains '$') && L.punctuations.all (fun p => !p.contains '$')

/-- the first character of a term's text is `$` only for an atom whose prefix begins with `$` -/
theorem term_dollar {L : LFormat} (hL : GLayout L) (hD : dollarFactsB L = true) (t : LTerm) (hw : wfLT L t = true)
    (hg : gTermOKB t = true) (rest : Str) (hrest : '$' ∉ rest) :
    dollarOKB (L.fmtTerm t ++ rest) = true := by
  cases t with
  | atom pre name =>
    rcases gAtom_cases (by simpa only [gTermOKB] using hg) with ⟨rfl, rfl⟩ | ⟨_, hname, rfl | ⟨p, ps, rfl, _⟩⟩
    · rfl
    · obtain ⟨d, v, rfl, hd⟩ := gName_head hname
      have : (d == '$') = false := beq_eq_false_iff_ne.mpr fun e => by subst e; revert hd; decide +kernel
      simp only [fmtTerm, List.nil_append, List.cons_append, dollarOKB, this, Bool.not_false, Bool.true_or]
    · obtain ⟨⟨j, hj, _⟩, _⟩ := lAtomOK_split (by simpa only [wfLT] using hw)
      simp only [dollarFactsB, Bool.and_eq_true, List.all_eq_true, Bool.not_eq_true'] at hD
      have hps := hD.1 _ (List.mem_of_getElem? hj)
      simp only [List.drop_succ_cons, List.drop_zero, List.contains_eq_mem, decide_eq_false_iff_not] at hps
      simp only [fmtTerm, List.cons_append, dollarOKB, Bool.or_eq_true, Bool.not_eq_true', List.contains_eq_mem,
        decide_eq_false_iff_not, List.mem_append, not_or]
      exact Or.inr ⟨⟨hps, no_dollar_name hname⟩, hrest⟩
  | compound conn ts =>
    simp only [fmtTerm, hL.compL, List.cons_append]
    rfl
  | set l ts r =>
    simp only [gTermOKB, Bool.and_eq_true, Bool.or_eq_true, beq_iff_eq] at hg
    rcases hg.1.1 with ⟨rfl, _⟩ | ⟨rfl, _⟩ <;> rfl
  | stmt cop s p =>
    simp only [fmtTerm, hL.stmtL, List.cons_append]
    rfl

/-! ### from the hypotheses of C02 and the names alone -/

def vocabFacts2B (L : LFormat) : Bool := vocabFactsB L && stampFactsB L && dollarFactsB L

/-- the names of the value's term -/
def gNamesN : LNarsese → Bool
  | .term t => gNamesB t
  | .sentence s => gNamesB s.term
  | .task k => gNamesB k.sentence.term

theorem sent_stamp {L : LFormat} (hS : stampFactsB L = true) (s : LSentence) (hw : sentOKB L s = true) :
    gStampB s.stamp = true := by
  rcases (sentOK_of_bool hw).2.2.1 with h0 | h
  · rw [h0]; rfl
  · exact gStamp_of_ok hS h

section
variable {L : LFormat} (hL : GLayout L) (hV : vocabFacts2B L = true)
include hL hV

theorem gExtra_of_names (v : LNarsese) (hw : wfLNB L v = true) (hn : gNamesN v = true) : gExtraB L v = true := by
  simp only [vocabFacts2B, Bool.and_eq_true] at hV
  obtain ⟨⟨hV1, hS⟩, hD⟩ := hV
  cases v with
  | term t =>
    simp only [wfLNB, Bool.and_eq_true] at hw
    simp only [gNamesN] at hn
    have hg := gTerm_of_wf hV1 t hw.1.1.1.1 hn
    have := term_dollar hL hD t hw.1.1.1.1 hg [] (by simp)
    simp only [gExtraB, Bool.and_eq_true]
    exact ⟨hn, by simpa using this⟩
  | sentence s =>
    simp only [wfLNB, Bool.and_eq_true] at hw
    simp only [gNamesN] at hn
    have hst := sent_stamp hS s hw.1
    have hgs := gSent_of_wf hV1 s hw.1 hn hst
    simp only [gSentOKB, Bool.and_eq_true] at hgs
    obtain ⟨⟨⟨hgt, _⟩, _⟩, htr⟩ := hgs
    have hwt : wfLT L s.term = true := (sentOK_of_bool hw.1).1
    have hpm : s.punct ∈ L.punctuations := (sentOK_of_bool hw.1).2.1
    have hpd : '$' ∉ s.punct := by
      simp only [dollarFactsB, Bool.and_eq_true, List.all_eq_true, Bool.not_eq_true', List.contains_eq_mem,
        decide_eq_false_iff_not] at hD
      exact hD.2 _ hpm
    have hrest : '$' ∉ s.punct ++ (optSp s.stamp ++ optSp (ttOf s.truth)) := by
      simp only [List.mem_append, not_or]
      exact ⟨hpd, no_dollar_optSp (no_dollar_stamp hst), no_dollar_optSp (no_dollar_tt htr)⟩
    have := term_dollar hL hD s.term hwt hgt _ hrest
    rw [← gtxt_sentence hL] at this
    simp only [gExtraB, Bool.and_eq_true]
    exact ⟨⟨hn, hst⟩, this⟩
  | task k =>
    simp only [wfLNB, Bool.and_eq_true] at hw
    simp only [gNamesN] at hn
    simp only [gExtraB, Bool.and_eq_true]
    exact ⟨hn, sent_stamp hS k.sentence hw.1⟩

end

end Narsese.Peg
