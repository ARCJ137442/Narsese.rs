/-
  Reading the derived tree back — `toNarsese (valTree v) = some v`: the tree the grammar derives
  for the formatter's output denotes the value that was printed (same kind, same prefix and name, connecter
  and component order, brackets, copula and operands, punctuation, stamp text, truth and budget entries).
-/
import Proofs.Peg.Whole
set_option autoImplicit false

namespace Narsese.Peg
open LFormat

mutual
  /-- the recursion depth `toTerm` needs on the tree of a term -/
  def need : LTerm → Nat
    | .atom _ _ => 2
    | .compound _ ts => 2 + needs ts
    | .set _ ts _ => 2 + needs ts
    | .stmt _ s p => 2 + max (need s) (need p)
  def needs : LTerms → Nat
    | .nil => 1
    | .cons t ts => 1 + max (need t) (needs ts)
end

/-! ### `toTerm` on the trees the grammar derives -/

theorem toTerm_term (f : Nat) (x : Str) (k : PTree) : toTerm (f + 1) (.node "term" x [k]) = toTerm f k := by
  simp [toTerm, PTree.rule, PTree.kids]

theorem toTerm_atom (f : Nat) {pre name : Str} (h : gAtomOKB pre name = true) :
    toTerm (f + 1) (.node "atom" (pre ++ name) (atomKids pre name)) = some (.atom pre name) := by
  rcases gAtom_cases h with ⟨rfl, rfl⟩ | ⟨hp, _, rfl | ⟨p, ps, rfl, _⟩⟩
  · simp [atomKids, toTerm, PTree.rule, PTree.kids, PTree.text]
  · simp [atomKids, contentTok, toTerm, PTree.rule, PTree.kids, PTree.text]
  · simp [atomKids_cons hp, contentTok, toTerm, PTree.rule, PTree.kids, PTree.text]

theorem toTerm_statement (f : Nat) (x cop : Str) {s p : PTree} {s' p' : LTerm} (hs : toTerm f s = some s')
    (hp : toTerm f p = some p') :
    toTerm (f + 1) (.node "statement" x [s, .node "copula" cop [], p]) = some (.stmt cop s' p') := by
  simp [toTerm, PTree.rule, PTree.kids, PTree.text, hs, hp]

theorem toTerm_compound (f : Nat) (x conn : Str) {ks : List PTree} {ts : List LTerm} (h : toTerms f ks = some ts) :
    toTerm (f + 1) (.node "compound" ('(' :: x) (.node "connecter" conn [] :: ks)) =
      some (.compound conn (LTerms.ofList ts)) := by
  simp [toTerm, PTree.rule, PTree.kids, PTree.text, h]

theorem toTerm_set (f : Nat) (x : Str) {l r : Str} (hlr : (l = ['{'] ∧ r = ['}']) ∨ (l = ['['] ∧ r = [']']))
    {ks : List PTree} {ts : List LTerm} (h : toTerms f ks = some ts) :
    toTerm (f + 1) (.node "compound" (l ++ x) ks) = some (.set l (LTerms.ofList ts) r) := by
  rcases hlr with ⟨rfl, rfl⟩ | ⟨rfl, rfl⟩ <;> simp [toTerm, PTree.rule, PTree.kids, PTree.text, h]

theorem toTerms_cons (f : Nat) {k : PTree} {ks : List PTree} {t : LTerm} {ts : List LTerm} (h1 : toTerm f k = some t)
    (h2 : toTerms f ks = some ts) : toTerms (f + 1) (k :: ks) = some (t :: ts) := by
  simp [toTerms, h1, h2]

section
variable {L : LFormat} (hL : GLayout L)
include hL

theorem toTerm_tree_trees :
    (∀ t, gTermOKB t = true → ∀ f, need t ≤ f → toTerm f (termTree L t) = some t) ∧
    ∀ ts, gTermsOKB ts = true → ∀ f, needs ts ≤ f → toTerms f (termTrees L ts) = some ts.toList := by
  apply gTerm_induct
  case atom =>
    intro pre name h f hf
    obtain ⟨f, rfl⟩ : ∃ g, f = g + 2 := ⟨f - 2, by simp only [need] at hf; omega⟩
    rw [termTree, toTerm_term]
    exact toTerm_atom f h
  case compound =>
    intro conn t ts _ _ _ iht ihts f hf
    simp only [need, needs] at hf
    obtain ⟨f, rfl⟩ : ∃ g, f = g + 3 := ⟨f - 3, by omega⟩
    have hts : toTerms (f + 1) (termTrees L (.cons t ts)) = some (LTerms.cons t ts).toList :=
      toTerms_cons f (iht f (by omega)) (ihts f (by omega))
    simp only [termTree, toTerm_term, fmtTerm, hL.compL, List.cons_append, List.nil_append]
    rw [toTerm_compound (f + 1) _ conn hts, LTerms.ofList_toList]
  case set =>
    intro l r t ts hlr _ _ iht ihts f hf
    simp only [need, needs] at hf
    obtain ⟨f, rfl⟩ : ∃ g, f = g + 3 := ⟨f - 3, by omega⟩
    have hts : toTerms (f + 1) (termTrees L (.cons t ts)) = some (LTerms.cons t ts).toList :=
      toTerms_cons f (iht f (by omega)) (ihts f (by omega))
    simp only [termTree, toTerm_term, fmtTerm, List.append_assoc]
    rw [toTerm_set (f + 1) _ hlr hts, LTerms.ofList_toList]
  case stmt =>
    intro cop s p _ _ _ ihs ihp f hf
    simp only [need] at hf
    obtain ⟨f, rfl⟩ : ∃ g, f = g + 2 := ⟨f - 2, by omega⟩
    rw [termTree, toTerm_term]
    exact toTerm_statement f _ cop (ihs f (by omega)) (ihp f (by omega))
  case nil =>
    intro f hf
    obtain ⟨f, rfl⟩ : ∃ g, f = g + 1 := ⟨f - 1, by simp only [needs] at hf; omega⟩
    rfl
  case cons =>
    intro t ts _ _ iht ihts f hf
    simp only [needs] at hf
    obtain ⟨f, rfl⟩ : ∃ g, f = g + 1 := ⟨f - 1, by omega⟩
    rw [termTrees, toTerms_cons f (iht f (by omega)) (ihts f (by omega)), LTerms.toList]

theorem toTerm_tree : ∀ (t : LTerm), gTermOKB t = true → ∀ (f : Nat), need t ≤ f → toTerm f (termTree L t) = some t :=
  (toTerm_tree_trees hL).1

theorem toTerms_trees : ∀ (ts : LTerms), gTermsOKB ts = true → ∀ (f : Nat), needs ts ≤ f →
      toTerms f (termTrees L ts) = some ts.toList :=
  (toTerm_tree_trees hL).2

/- every level of nesting costs `toTerm` two steps and the text at least one character -/
theorem need_tail_le :
    (∀ t, gTermOKB t = true → need t ≤ 2 * (L.fmtTerm t).length + 2) ∧
    ∀ ts, gTermsOKB ts = true → needs ts ≤ 2 * (tailL sepSp (fmtTerms L ts)).length + 3 := by
  apply gTerm_induct
  case atom =>
    intro pre name _
    simp only [need]
    omega
  case compound =>
    intro conn t ts _ _ _ iht ihts
    have e := congrArg List.length (gtxt_compound hL conn t ts [])
    simp only [List.append_nil, List.length_cons, List.length_append] at e
    simp only [need, needs]
    omega
  case set =>
    intro l r t ts hlr _ _ iht ihts
    have e := congrArg List.length (gtxt_set hL l r t ts [])
    simp only [List.append_nil, List.length_append] at e
    have hl : 1 ≤ l.length ∧ 1 ≤ r.length := by rcases hlr with ⟨rfl, rfl⟩ | ⟨rfl, rfl⟩ <;> simp
    simp only [need, needs]
    omega
  case stmt =>
    intro cop s p _ _ _ ihs ihp
    have e := congrArg List.length (gtxt_stmt hL cop s p [])
    simp only [List.append_nil, List.length_cons, List.length_append] at e
    simp only [need]
    omega
  case nil => simp [needs]
  case cons =>
    intro t ts _ _ iht ihts
    have : sepSp.length = 2 := rfl
    simp only [needs, fmtTerms, tailL, List.length_append]
    omega

theorem need_le : ∀ (t : LTerm), gTermOKB t = true → need t ≤ 2 * (L.fmtTerm t).length + 2 :=
  (need_tail_le hL).1

theorem tail_le : ∀ (ts : LTerms), gTermsOKB ts = true →
      needs ts ≤ 2 * (tailL sepSp (fmtTerms L ts)).length + 3 :=
  (need_tail_le hL).2

end

/-! ### items, sentence, task, value -/

theorem text_node (r : String) (x : Str) (k : List PTree) : (PTree.node r x k).text = x := rfl
theorem rule_node (r : String) (x : Str) (k : List PTree) : (PTree.node r x k).rule = r := rfl
theorem kids_node (r : String) (x : Str) (k : List PTree) : (PTree.node r x k).kids = k := rfl

theorem leafTexts_tbt (xs : List Str) : leafTexts "truth_budget_term" (xs.map tbtTok) = xs := by
  induction xs with
  | nil => simp [leafTexts]
  | cons x xs ih =>
    simp only [leafTexts, List.map_cons, List.filter, tbtTok, rule_node] at ih ⊢
    simp [text_node, ih]

theorem termTree_text (L : LFormat) (t : LTerm) : (termTree L t).text = L.fmtTerm t := by
  cases t <;> simp [termTree, text_node, fmtTerm]

theorem termTree_rule (L : LFormat) (t : LTerm) : (termTree L t).rule = "term" := by
  cases t <;> simp [termTree, rule_node]

theorem toSentence_node (x p st : Str) (tr : List Str) {term : PTree} {tm : LTerm}
    (ht : toTerm (2 * term.text.length + 4) term = some tm) :
    toSentence (.node "sentence" x (term :: .node "punctuation" p [] :: (stampToks st ++ truthToks tr))) =
      some { term := tm, punct := p, stamp := st, truth := tr } := by
  cases st <;> cases tr <;>
    simp [toSentence, rule_node, kids_node, text_node, ht, stampToks, truthToks, leafTexts_tbt, -List.map_cons]

section
variable {L : LFormat} (hL : GLayout L)
include hL

theorem toTerm_top (t : LTerm) (h : gTermOKB t = true) :
    toTerm (2 * (termTree L t).text.length + 4) (termTree L t) = some t := by
  rw [termTree_text]
  exact toTerm_tree hL t h _ (by have := need_le hL t h; omega)

theorem toSentence_tree (s : LSentence) (h : gSentOKB s = true) : toSentence (sentTree L s) = some s := by
  simp only [gSentOKB, Bool.and_eq_true] at h
  exact toSentence_node _ _ _ _ (toTerm_top hL s.term h.1.1.1)

theorem toNarsese_tree (v : LNarsese) (h : gValOKB L v = true) : toNarsese (valTree L v) = some v := by
  cases v with
  | term t =>
    simp only [gValOKB, Bool.and_eq_true] at h
    have ht := toTerm_top hL t h.1
    simp [toNarsese, valTree, rule_node, kids_node, termTree_rule, ht]
  | sentence s =>
    simp only [gValOKB, Bool.and_eq_true] at h
    have hs := toSentence_tree hL s h.1
    have hr : (sentTree L s).rule = "sentence" := rfl
    simp [toNarsese, valTree, rule_node, kids_node, hr, hs]
  | task k =>
    simp only [gValOKB, gTaskOKB, Bool.and_eq_true] at h
    have hs := toSentence_tree hL k.sentence h.2
    simp [toNarsese, valTree, taskTree, budgetTree, rule_node, kids_node, hs, leafTexts_tbt]

end

end Narsese.Peg
