/-
  The fuel-honest PEG interpreter is sound for the declarative semantics — whenever it answers
  (`ok` or `fail`, i.e. the fuel was not exhausted) the relation `Ev` holds. So what the check computes with
  `referenceS` on a concrete string IS the published grammar's reading of that string.
  One statement covers both answers (`runS_ev`): `PR.ofOpt` turns a result of the semantics into the answer that
  stands for it, and a run that ends in `PR.ofOpt res` is a derivation of `res`. `Proofs/Peg/Det.lean` has the
  converse.
-/
import NarseseModel.PegSem
set_option autoImplicit false

namespace Narsese.Peg

/-- the interpreter's answer that stands for a result of the semantics -/
def PR.ofOpt : Option (Str × List PTree) → PR
  | some (r, k) => .ok r k
  | none => .fail

theorem PR.ofOpt_inj {x y : Option (Str × List PTree)} (h : PR.ofOpt x = PR.ofOpt y) : x = y := by
  match x, y, h with
  | none, none, _ => rfl
  | some (_, _), some (_, _), h => cases h; rfl

theorem PR.out_ne_ofOpt {x : Option (Str × List PTree)} : PR.out ≠ PR.ofOpt x := by
  match x with
  | none => nofun
  | some (_, _) => nofun

theorem wrapRefS_ofOpt (a : Bool) (r : Rule) (n : String) (s : Str) (res : Option (Str × List PTree)) :
    wrapRefS a r n s (PR.ofOpt res) = PR.ofOpt (wrapRef a r n s res) := by
  match res with
  | none => rfl
  | some (rest, kids) =>
    show wrapRefS a r n s (.ok rest kids) = _
    simp only [wrapRefS, wrapRef, apply_ite PR.ofOpt]
    rfl

variable (G : Grammar)

/-- results that stand for the same answer are the same result -/
theorem Ev.cast {a : Bool} {p : Peg} {s : Str} {x res : Option (Str × List PTree)} (h : Ev G a p s x)
    (e : PR.ofOpt x = PR.ofOpt res) : Ev G a p s res :=
  PR.ofOpt_inj e ▸ h

theorem manyS_not_fail : ∀ (fuel : Nat) (a : Bool) (p : Peg) (s : Str) (acc : List PTree),
    manyS G fuel a p s acc ≠ .fail
  | 0, _, _, _, _ => nofun
  | fuel + 1, a, p, s, acc => by
    simp only [manyS]
    cases skipS G fuel a s with
    | out => exact nofun
    | ok s' =>
      simp only
      cases runS G fuel a p s' with
      | out => exact nofun
      | fail => exact nofun
      | ok r k =>
        simp only
        split
        · exact manyS_not_fail fuel a p r (acc ++ k)
        · exact nofun

mutual
  theorem runS_ev : ∀ (fuel : Nat) (a : Bool) (p : Peg) (s : Str) (res : Option (Str × List PTree)),
      runS G fuel a p s = PR.ofOpt res → Ev G a p s res
    | 0, _, _, _, _ => fun h => absurd h PR.out_ne_ofOpt
    | fuel + 1, a, p, s, res => by
      cases p with
      | lit k =>
        have := Ev.lit (G := G) a k s
        simp only [runS]
        revert this
        cases strip k s <;> exact fun h => h.cast
      | cls n =>
        simp only [runS]
        cases hc : G.cls? n with
        | none => exact (Ev.cls_unknown a n s hc).cast
        | some tbl =>
          cases s with
          | nil => exact (Ev.cls_eof a n).cast
          | cons c cs =>
            simp only
            cases hin : inRanges tbl c with
            | true => exact (Ev.cls_ok a n tbl c cs hc hin).cast
            | false => exact (Ev.cls_no a n tbl c cs hc hin).cast
      | ref n =>
        simp only [runS]
        cases hr : G.rule? n with
        | none => exact (Ev.ref_unknown a n s hr).cast
        | some r =>
          have ih := runS_ev fuel (a || r.mod == .atomic) r.body s
          simp only
          cases h1 : runS G fuel (a || r.mod == .atomic) r.body s with
          | out => exact fun h => absurd h PR.out_ne_ofOpt
          | fail => exact (Ev.ref a n r s none hr (ih none h1)).cast
          | ok rest kids =>
            rw [show PR.ok rest kids = PR.ofOpt (some (rest, kids)) from rfl, wrapRefS_ofOpt]
            exact (Ev.ref a n r s _ hr (ih (some (rest, kids)) h1)).cast
      | seq p q =>
        simp only [runS]
        have ih1 := runS_ev fuel a p s
        cases h1 : runS G fuel a p s with
        | out => exact fun h => absurd h PR.out_ne_ofOpt
        | fail => exact (Ev.seq_fail a p q s (ih1 none h1)).cast
        | ok r1 k1 =>
          simp only
          cases hsk : skipS G fuel a r1 with
          | out => exact fun h => absurd h PR.out_ne_ofOpt
          | ok r1' =>
            have hs := skipS_sound fuel a r1 r1' hsk
            have ih2 := runS_ev fuel a q r1'
            simp only
            cases h2 : runS G fuel a q r1' with
            | out => exact fun h => absurd h PR.out_ne_ofOpt
            | fail => exact (Ev.seq a p q s r1 r1' k1 none (ih1 (some (r1, k1)) h1) hs (ih2 none h2)).cast
            | ok r2 k2 =>
              exact (Ev.seq a p q s r1 r1' k1 (some (r2, k2)) (ih1 (some (r1, k1)) h1) hs (ih2 (some (r2, k2)) h2)).cast
      | alt p q =>
        simp only [runS]
        have ih1 := runS_ev fuel a p s
        cases h1 : runS G fuel a p s with
        | out => exact fun h => absurd h PR.out_ne_ofOpt
        | ok r1 k1 => exact (Ev.alt_l a p q s _ (ih1 (some (r1, k1)) h1)).cast
        | fail => exact fun h => Ev.alt_r a p q s _ (ih1 none h1) (runS_ev fuel a q s res h)
      | opt p =>
        simp only [runS]
        have ih1 := runS_ev fuel a p s
        cases h1 : runS G fuel a p s with
        | out => exact fun h => absurd h PR.out_ne_ofOpt
        | ok r1 k1 => exact (Ev.opt_some a p s _ (ih1 (some (r1, k1)) h1)).cast
        | fail => exact (Ev.opt_none a p s (ih1 none h1)).cast
      | neg p =>
        simp only [runS]
        have ih1 := runS_ev fuel a p s
        cases h1 : runS G fuel a p s with
        | out => exact fun h => absurd h PR.out_ne_ofOpt
        | ok r1 k1 => exact (Ev.neg_some a p s _ (ih1 (some (r1, k1)) h1)).cast
        | fail => exact (Ev.neg_none a p s (ih1 none h1)).cast
      | star p =>
        simp only [runS]
        match res with
        | none => exact fun h => absurd h (manyS_not_fail G fuel a p s [])
        | some (r, k) => exact fun h => Ev.star a p s _ (manyS_sound fuel a p s [] r k h)
      | plus p =>
        simp only [runS]
        have ih1 := runS_ev fuel a p s
        cases h1 : runS G fuel a p s with
        | out => exact fun h => absurd h PR.out_ne_ofOpt
        | fail => exact (Ev.plus_fail a p s (ih1 none h1)).cast
        | ok r1 k1 =>
          simp only
          match res with
          | none => exact fun h => absurd h (manyS_not_fail G fuel a p r1 k1)
          | some (r, k) => exact fun h => Ev.plus a p s r1 k1 _ (ih1 (some (r1, k1)) h1) (manyS_sound fuel a p r1 k1 r k h)

  theorem manyS_sound : ∀ (fuel : Nat) (a : Bool) (p : Peg) (s : Str) (acc : List PTree) (r : Str) (k : List PTree),
      manyS G fuel a p s acc = .ok r k → Many G a p s acc (r, k)
    | 0, _, _, _, _, _, _ => nofun
    | fuel + 1, a, p, s, acc, r, k => by
      simp only [manyS]
      cases hsk : skipS G fuel a s with
      | out => exact nofun
      | ok s' =>
        have hs := skipS_sound fuel a s s' hsk
        have ih := runS_ev fuel a p s'
        simp only
        cases h1 : runS G fuel a p s' with
        | out => exact nofun
        | fail => exact fun e => by cases e; exact Many.stop_fail a p s s' acc hs (ih none h1)
        | ok r1 k1 =>
          simp only
          split
          · next hl =>
            exact fun e => Many.step a p s s' r1 k1 acc _ hs (ih (some (r1, k1)) h1) hl
              (manyS_sound fuel a p r1 (acc ++ k1) r k e)
          · next hl => exact fun e => by cases e; exact Many.stop_stuck a p s s' r1 k1 acc hs (ih (some (r1, k1)) h1) hl

  theorem skipS_sound : ∀ (fuel : Nat) (a : Bool) (s s' : Str), skipS G fuel a s = .ok s' → Skip G a s s'
    | 0, _, _, _ => nofun
    | fuel + 1, true, s, s' => fun h => by cases h; exact Skip.atomic s
    | fuel + 1, false, s, s' => by
      simp only [skipS, Bool.false_eq_true, if_false]
      cases hr : G.rule? "WHITESPACE" with
      | none => exact fun h => by cases h; exact Skip.no_rule s hr
      | some r0 =>
        have ih := runS_ev fuel true r0.body s
        simp only
        cases h1 : runS G fuel true r0.body s with
        | out => exact nofun
        | fail => exact fun h => by cases h; exact Skip.stop s r0 hr (ih none h1)
        | ok rest k =>
          simp only
          split
          · next hl =>
            exact fun h => Skip.step s rest s' r0 k hr (ih (some (rest, k)) h1) hl (skipS_sound fuel false rest s' h)
          · next hl => exact fun h => by cases h; exact Skip.stuck s rest r0 k hr (ih (some (rest, k)) h1) hl
end

theorem runS_sound : ∀ (fuel : Nat) (a : Bool) (p : Peg) (s : Str),
    (∀ r k, runS G fuel a p s = .ok r k → Ev G a p s (some (r, k))) ∧ (runS G fuel a p s = .fail → Ev G a p s none) :=
  fun fuel a p s => ⟨fun r k => runS_ev G fuel a p s (some (r, k)), runS_ev G fuel a p s none⟩

theorem referenceS_sound (s : Str) (v : LNarsese) (h : referenceS G s = some v) : Reads G s v := by
  unfold referenceS parseAllS at h
  split at h
  · next t hr => exact ⟨t, runS_ev G _ false _ s (some ([], [t])) hr, h⟩
  · cases h

end Narsese.Peg
