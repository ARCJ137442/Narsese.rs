/-
  `atom`, `statement`, `compound`, `term` — every term of the grammar-side well-formedness `gTermOKB`, printed with
  the ASCII layout, is derived by the README grammar's `term` rule, whatever follows (`stopGB`), and the tree has the
  expected shape.
-/
import Proofs.Peg.Atoms
set_option autoImplicit false

namespace Narsese.Peg
open LFormat

/-! ### skipping after a term -/

theorem stopG_char {c : Char} (cs : Str) (h : (!(c == ' ') && !acB c && !(c == '=') && !wsB c) = true) :
    stopGB (c :: cs) = true := by
  simp only [Bool.and_eq_true, Bool.not_eq_true', beq_eq_false_iff_ne] at h
  have : (c == ' ') = false := beq_eq_false_iff_ne.mpr h.1.1.1
  simp only [stopGB, this, Bool.false_eq_true, if_false, Bool.and_eq_true, Bool.not_eq_true', beq_eq_false_iff_ne]
  exact ⟨⟨h.1.1.2, h.1.2⟩, h.2⟩

theorem stopG_skip {rest : Str} (h : stopGB rest = true) :
    ∃ rest', Skip RG false rest rest' ∧ ∀ c ∈ rest'.head?, c ≠ '_' := by
  cases rest with
  | nil => exact ⟨[], skip_none false noWs_nil, by simp⟩
  | cons c cs =>
    simp only [stopGB] at h
    by_cases hc : c = ' '
    · subst hc
      cases cs with
      | nil => simp at h
      | cons d ds =>
        simp only [beq_self_eq_true, if_true, Bool.and_eq_true, Bool.not_eq_true', beq_eq_false_iff_ne] at h
        exact ⟨d :: ds, skip_space (noWs_cons h.1), by simpa using h.2⟩
    · simp only [beq_iff_eq, hc, if_false, Bool.and_eq_true, Bool.not_eq_true', beq_eq_false_iff_ne] at h
      refine ⟨c :: cs, skip_none false (noWs_cons h.2), fun d hd e => ?_⟩
      cases hd
      subst e
      exact absurd h.1.1 (by decide +kernel)

/-! ### `atom` -/

def atomBody : Peg :=
  .alt (.alt (.plus (.lit ['_'])) (.seq (.ref "atom_prefix") (.ref "atom_content"))) (.ref "atom_content")

theorem rule_atom : RG.rule? "atom" = some { name := "atom", mod := .normal, body := atomBody } := by decide +kernel

def contentTok (name : Str) : PTree := .node "atom_content" name []

def atomKids (pre name : Str) : List PTree :=
  if pre == ['_'] then [] else if pre.isEmpty then [contentTok name] else [.node "atom_prefix" pre [], contentTok name]

theorem atomKids_cons {p : Char} {ps : Str} (h : p :: ps ≠ ['_']) (name : Str) :
    atomKids (p :: ps) name = [.node "atom_prefix" (p :: ps) [], contentTok name] := by
  simp only [atomKids, beq_eq_false_iff_ne.mpr h, List.isEmpty_cons, Bool.false_eq_true, if_false]

theorem gName_head {name : Str} (h : gNameOKB name = true) : ∃ c v, name = c :: v ∧ lnB c = true := by
  cases name with
  | nil => simp [gNameOKB] at h
  | cons c v =>
    simp only [gNameOKB, Bool.and_eq_true] at h
    exact ⟨c, v, rfl, h.1⟩

theorem gAtom_cases {pre name : Str} (h : gAtomOKB pre name = true) :
    (pre = ['_'] ∧ name = []) ∨ (pre ≠ ['_'] ∧ gNameOKB name = true ∧
      (pre = [] ∨ ∃ p ps, pre = p :: ps ∧ pre.all psB = true ∧ p ≠ '_' ∧ openerB p = false)) := by
  by_cases hp : pre = ['_']
  · subst hp; exact Or.inl ⟨rfl, by simpa [gAtomOKB] using h⟩
  · have hp' : (pre == ['_']) = false := by simpa using hp
    simp only [gAtomOKB, hp', Bool.false_eq_true, if_false, Bool.and_eq_true] at h
    refine Or.inr ⟨hp, h.2, ?_⟩
    cases pre with
    | nil => exact Or.inl rfl
    | cons p ps =>
      have hh := h.1.2
      simp only [Bool.and_eq_true, Bool.not_eq_true', beq_eq_false_iff_ne] at hh
      exact Or.inr ⟨p, ps, rfl, h.1.1, hh.1, hh.2⟩

theorem ln_us : lnB '_' = false := by decide +kernel

theorem ln_not_opener {c : Char} (hc : lnB c = true) : openerB c = false := by
  have hcps := ln_not_ps hc
  simp only [openerB, Bool.or_eq_false_iff, beq_eq_false_iff_ne]
  refine ⟨⟨⟨?_, ?_⟩, ?_⟩, ?_⟩ <;> (intro e; subst e; revert hcps; decide +kernel)

/-- where a letter or number follows, `"_"+` and `atom_prefix` fail: the `atom` is what `atom_content` reads -/
theorem atom_of_content {X rest : Str} {k : List PTree} (hX : ∀ c ∈ (X ++ rest).head?, lnB c = true)
    (h : Ev RG false (.ref "atom_content") (X ++ rest) (some (rest, k))) :
    Ev RG false (.ref "atom") (X ++ rest) (some (rest, [.node "atom" X k])) :=
  ev_ref_tok rule_atom rfl (ev_alt_r (ev_alt_r
    (Ev.plus_fail _ _ _ (ev_lit1_fail false '_' _ fun c hc e => by
      have := hX c hc
      rw [← e, ln_us] at this
      cases this))
    (Ev.seq_fail _ _ _ _ (ev_atom_prefix_fail _ fun c hc => ln_not_ps (hX c hc)))) h)

theorem ev_atom (pre name rest : Str) (h : gAtomOKB pre name = true) (hr : stopGB rest = true) :
    Ev RG false (.ref "atom") (pre ++ name ++ rest) (some (rest, [.node "atom" (pre ++ name) (atomKids pre name)])) := by
  rcases gAtom_cases h with ⟨rfl, rfl⟩ | ⟨hp, hname, hpre⟩
  · -- the placeholder
    obtain ⟨rest', hsk, hne⟩ := stopG_skip hr
    have hm : Many RG false (.lit ['_']) rest [] (rest, []) :=
      Many.stop_fail false _ rest rest' [] hsk (ev_lit1_fail false '_' rest' (fun c hc e => hne c hc e.symm))
    exact ev_ref_tok rule_atom rfl
      (ev_alt_l (ev_alt_l (Ev.plus false (.lit ['_']) ('_' :: rest) rest [] _ (ev_lit1_hit false '_' rest) hm)))
  · obtain ⟨c, v, rfl, hc⟩ := gName_head hname
    have h3 := ev_atom_content (c :: v) rest hname hr
    rcases hpre with rfl | ⟨p, ps, rfl, hps, hpu, _⟩
    · exact atom_of_content (fun d hd => by cases hd; exact hc) h3
    · have h2 := ev_atom_prefix (p :: ps) (c :: v ++ rest) (List.cons_ne_nil p ps) hps
        (fun d hd => by cases hd; exact ln_not_ps hc)
      have hsk := skip_none false (noWs_cons (cs := v ++ rest) (ln_not_ws hc))
      rw [atomKids_cons hp]
      refine ev_ref_tok rule_atom rfl
        (ev_alt_l (ev_alt_r (Ev.plus_fail _ _ _ (ev_lit1_miss false '_' p _ (Ne.symm hpu))) ?_))
      rw [List.append_assoc]
      exact ev_seq_ok h2 hsk h3

theorem atom_head {pre name : Str} (h : gAtomOKB pre name = true) :
    ∃ c cs, pre ++ name = c :: cs ∧ wsB c = false ∧ openerB c = false := by
  rcases gAtom_cases h with ⟨rfl, rfl⟩ | ⟨_, hname, hpre⟩
  · exact ⟨'_', [], rfl, by decide +kernel, by decide⟩
  · obtain ⟨c, v, rfl, hc⟩ := gName_head hname
    rcases hpre with rfl | ⟨p, ps, rfl, hps, _, hop⟩
    · exact ⟨c, v, rfl, ln_not_ws hc, ln_not_opener hc⟩
    · simp only [List.all_cons, Bool.and_eq_true] at hps
      exact ⟨p, ps ++ c :: v, rfl, ps_not_ws hps.1, hop⟩

/-! ### layout, well-formedness, trees -/

/-- the fixed characters of the grammar, as the formatter lays them out -/
structure GLayout (L : LFormat) : Prop where
  compL : L.compL = ['(']
  compR : L.compR = [')']
  separator : L.separator = [',']
  stmtL : L.stmtL = ['<']
  stmtR : L.stmtR = ['>']
  spaceTerms : L.spaceTerms = [' ']
  spaceItems : L.spaceItems = [' ']
  truthL : L.truthL = ['%']
  truthR : L.truthR = ['%']
  truthSep : L.truthSep = [';']
  budgetL : L.budgetL = ['$']
  budgetR : L.budgetR = ['$']
  budgetSep : L.budgetSep = [';']

mutual
  /-- the tree the grammar derives for a term -/
  def termTree (L : LFormat) : LTerm → PTree
    | .atom pre name => .node "term" (pre ++ name) [.node "atom" (pre ++ name) (atomKids pre name)]
    | .compound conn ts =>
      .node "term" (L.fmtTerm (.compound conn ts))
        [.node "compound" (L.fmtTerm (.compound conn ts)) (.node "connecter" conn [] :: termTrees L ts)]
    | .set l ts r =>
      .node "term" (L.fmtTerm (.set l ts r)) [.node "compound" (L.fmtTerm (.set l ts r)) (termTrees L ts)]
    | .stmt cop s p =>
      .node "term" (L.fmtTerm (.stmt cop s p))
        [.node "statement" (L.fmtTerm (.stmt cop s p)) [termTree L s, .node "copula" cop [], termTree L p]]
  def termTrees (L : LFormat) : LTerms → List PTree
    | .nil => []
    | .cons t ts => termTree L t :: termTrees L ts
end

def sepSp : Str := [',', ' ']

section
variable {L : LFormat} (hL : GLayout L)
include hL

theorem gtxt_compound (conn : Str) (t : LTerm) (ts : LTerms) (rest : Str) :
    L.fmtTerm (.compound conn (.cons t ts)) ++ rest =
      '(' :: (conn ++ ',' :: ' ' :: (L.fmtTerm t ++ (tailL sepSp (fmtTerms L ts) ++ ')' :: rest))) := by
  simp only [fmtTerm, fmtTerms, joinComponents, joinWith_cons_tail, hL.compL, hL.compR, hL.separator, hL.spaceTerms,
    sepSp, List.append_assoc, List.cons_append, List.nil_append]

theorem gtxt_set (l r : Str) (t : LTerm) (ts : LTerms) (rest : Str) :
    L.fmtTerm (.set l (.cons t ts) r) ++ rest =
      l ++ (L.fmtTerm t ++ (tailL sepSp (fmtTerms L ts) ++ (r ++ rest))) := by
  simp only [fmtTerm, fmtTerms, joinComponents, joinWith_cons_tail, hL.separator, hL.spaceTerms,
    sepSp, List.append_assoc, List.cons_append, List.nil_append]

theorem gtxt_stmt (cop : Str) (s p : LTerm) (rest : Str) :
    L.fmtTerm (.stmt cop s p) ++ rest =
      '<' :: (L.fmtTerm s ++ ' ' :: (cop ++ ' ' :: (L.fmtTerm p ++ '>' :: rest))) := by
  simp only [fmtTerm, hL.stmtL, hL.stmtR, hL.spaceTerms, List.append_assoc, List.cons_append, List.nil_append]

theorem term_head : ∀ (t : LTerm), gTermOKB t = true → ∃ c cs, L.fmtTerm t = c :: cs ∧ wsB c = false
  | .atom pre name, h => by
    obtain ⟨c, cs, e, hw, _⟩ := atom_head (by simpa [gTermOKB] using h)
    exact ⟨c, cs, by simpa [fmtTerm] using e, hw⟩
  | .compound conn ts, _ => ⟨'(', _, by simp only [fmtTerm, hL.compL, List.cons_append, List.nil_append]; rfl, by decide +kernel⟩
  | .set l ts r, h => by
    simp only [gTermOKB, Bool.and_eq_true, Bool.or_eq_true, beq_iff_eq] at h
    rcases h.1.1 with ⟨e1, _⟩ | ⟨e1, _⟩
    · exact ⟨'{', _, by simp only [fmtTerm, e1, List.cons_append, List.nil_append]; rfl, by decide +kernel⟩
    · exact ⟨'[', _, by simp only [fmtTerm, e1, List.cons_append, List.nil_append]; rfl, by decide +kernel⟩
  | .stmt cop s p, _ => ⟨'<', _, by simp only [fmtTerm, hL.stmtL, List.cons_append, List.nil_append]; rfl, by decide +kernel⟩

theorem noWs_term (t : LTerm) (h : gTermOKB t = true) (rest : Str) : NoWs (L.fmtTerm t ++ rest) := by
  obtain ⟨c, cs, e, hw⟩ := term_head hL t h
  rw [e]; exact noWs_cons hw

end

/-! ### the rules -/

def statementBody : Peg :=
  .seq (.seq (.seq (.seq (.lit ['<']) (.ref "term")) (.ref "copula")) (.ref "term")) (.lit ['>'])

theorem rule_statement :
    RG.rule? "statement" = some { name := "statement", mod := .normal, body := statementBody } := by decide +kernel

def tailBody : Peg := .star (.seq (.lit [',']) (.ref "term"))

def compoundBody : Peg :=
  .alt (.alt (.seq (.seq (.seq (.seq (.seq (.lit ['(']) (.ref "connecter")) (.lit [','])) (.ref "term")) tailBody) (.lit [')']))
             (.seq (.seq (.seq (.lit ['{']) (.ref "term")) tailBody) (.lit ['}'])))
       (.seq (.seq (.seq (.lit ['[']) (.ref "term")) tailBody) (.lit [']']))

theorem rule_compound :
    RG.rule? "compound" = some { name := "compound", mod := .normal, body := compoundBody } := by decide +kernel

def termBody : Peg := .alt (.alt (.ref "statement") (.ref "compound")) (.ref "atom")

theorem rule_term : RG.rule? "term" = some { name := "term", mod := .normal, body := termBody } := by decide +kernel

theorem statement_fail (s : Str) (h : ∀ c ∈ s.head?, '<' ≠ c) : Ev RG false (.ref "statement") s none :=
  ev_ref_no rule_statement (ev_first_fail (ev_lit1_fail false '<' s h))

theorem compound_fail (s : Str) (h : ∀ c ∈ s.head?, '(' ≠ c ∧ '{' ≠ c ∧ '[' ≠ c) : Ev RG false (.ref "compound") s none :=
  ev_ref_no rule_compound (ev_alt_r (ev_alt_r
    (ev_first_fail (ev_lit1_fail false '(' s fun c hc => (h c hc).1))
    (ev_first_fail (ev_lit1_fail false '{' s fun c hc => (h c hc).2.1)))
    (ev_first_fail (ev_lit1_fail false '[' s fun c hc => (h c hc).2.2)))

/- the three alternatives of `term`. Ordered choice: a later alternative is reached only where the earlier ones fail,
   whence the hypotheses on the first character in `term_of_compound` and `term_of_atom` -/
theorem term_of_statement {X rest : Str} {k : List PTree}
    (h : Ev RG false (.ref "statement") (X ++ rest) (some (rest, k))) :
    Ev RG false (.ref "term") (X ++ rest) (some (rest, [.node "term" X k])) :=
  ev_ref_tok rule_term rfl (ev_alt_l (ev_alt_l h))

theorem term_of_compound {X rest : Str} {k : List PTree} (hX : ∀ c ∈ (X ++ rest).head?, '<' ≠ c)
    (h : Ev RG false (.ref "compound") (X ++ rest) (some (rest, k))) :
    Ev RG false (.ref "term") (X ++ rest) (some (rest, [.node "term" X k])) :=
  ev_ref_tok rule_term rfl (ev_alt_l (ev_alt_r (statement_fail _ hX) h))

theorem term_of_atom {X rest : Str} {k : List PTree} (hX : ∀ c ∈ (X ++ rest).head?, openerB c = false)
    (h : Ev RG false (.ref "atom") (X ++ rest) (some (rest, k))) :
    Ev RG false (.ref "term") (X ++ rest) (some (rest, [.node "term" X k])) := by
  have hop : ∀ c ∈ (X ++ rest).head?, '<' ≠ c ∧ '(' ≠ c ∧ '{' ≠ c ∧ '[' ≠ c := fun c hc => by
    have := hX c hc
    simp only [openerB, Bool.or_eq_false_iff, beq_eq_false_iff_ne] at this
    exact ⟨fun e => this.1.1.1 e.symm, fun e => this.1.1.2 e.symm, fun e => this.1.2 e.symm, fun e => this.2 e.symm⟩
  exact ev_ref_tok rule_term rfl
    (ev_alt_r (ev_alt_r (statement_fail _ fun c hc => (hop c hc).1) (compound_fail _ fun c hc => (hop c hc).2)) h)

/-- what closes a component list -/
def closeB (rest : Str) : Bool :=
  match rest with
  | c :: _ => c == ')' || c == '}' || c == ']'
  | [] => false

theorem close_facts {rest : Str} (h : closeB rest = true) :
    NoWs rest ∧ stopGB rest = true ∧ (∀ c ∈ rest.head?, ',' ≠ c) := by
  cases rest with
  | nil => simp [closeB] at h
  | cons c cs =>
    simp only [closeB, Bool.or_eq_true, beq_iff_eq] at h
    rcases h with (h | h) | h <;> subst h <;>
      exact ⟨noWs_cons (by decide +kernel), stopG_char _ (by decide +kernel), by simp⟩

/-- what follows a component: the closing bracket, or `, ` and the next component -/
theorem tail_facts (xs : List Str) {rest : Str} (h : closeB rest = true) :
    NoWs (tailL sepSp xs ++ rest) ∧ stopGB (tailL sepSp xs ++ rest) = true := by
  cases xs with
  | nil => exact ⟨(close_facts h).1, (close_facts h).2.1⟩
  | cons x xs => exact ⟨noWs_cons (c := ',') (by decide +kernel), stopG_char (c := ',') _ (by decide +kernel)⟩

theorem gCop_cases {cop : Str} (h : gCopOKB cop = true) :
    cop.length = 3 ∧ gcopB cop = true ∧ ∃ d ds, cop = d :: ds ∧ wsB d = false ∧ d ≠ '_' := by
  cases cop with
  | nil => simp [gCopOKB] at h
  | cons d ds =>
    simp only [gCopOKB, Bool.and_eq_true, Bool.not_eq_true', beq_iff_eq, beq_eq_false_iff_ne] at h
    exact ⟨h.1.1, h.1.2, d, ds, rfl, h.2⟩

theorem stopG_cop {cop : Str} (h : gCopOKB cop = true) (rest : Str) : stopGB (' ' :: (cop ++ rest)) = true := by
  obtain ⟨_, _, d, ds, rfl, hw, hu⟩ := gCop_cases h
  simp [stopGB, hw, hu]

theorem noWs_conn {conn : Str} (h : gConnB conn = true) (rest : Str) : NoWs (conn ++ rest) := by
  cases conn with
  | nil => simp [gConnB] at h
  | cons c cs =>
    simp only [gConnB, List.all_cons, Bool.and_eq_true] at h
    exact noWs_cons (ps_not_ws h.2.1.1)

theorem noWs_cop {cop : Str} (h : gCopOKB cop = true) (rest : Str) : NoWs (cop ++ rest) := by
  obtain ⟨_, _, d, ds, rfl, hw, _⟩ := gCop_cases h
  exact noWs_cons hw

/-- what the three alternatives of `compound` share: after an opener `O` (and the blank the formatter puts after a
connecter), `term ~ ("," ~ term)* ~ close` -/
theorem ev_components {O : Peg} {s s1 s2 s3 rest : Str} {kO k1 ks : List PTree} (cl : Char)
    (hcl : closeB (cl :: rest) = true) (hO : Ev RG false O s (some (s1, kO))) (hW : Skip RG false s1 s2)
    (h1 : Ev RG false (.ref "term") s2 (some (s3, k1))) (hs : NoWs s3)
    (hl : Many RG false (.seq (.lit [',']) (.ref "term")) s3 [] (cl :: rest, ks)) :
    Ev RG false (.seq (.seq (.seq O (.ref "term")) tailBody) (.lit [cl])) s (some (rest, kO ++ k1 ++ ks)) :=
  ((hO.andThen hW h1 rfl).andThen (skip_none false hs) (Ev.star false _ _ _ hl) rfl).andThen
    (skip_none false (close_facts hcl).1) (ev_lit1_hit false cl rest) (by simp)

/-- what `gTermOKB` says of each form of term, as an induction principle -/
theorem gTerm_induct {P : LTerm → Prop} {Q : LTerms → Prop}
    (atom : ∀ pre name, gAtomOKB pre name = true → P (.atom pre name))
    (compound : ∀ conn t ts, gConnB conn = true → gTermOKB t = true → gTermsOKB ts = true → P t → Q ts →
      P (.compound conn (.cons t ts)))
    (set : ∀ l r t ts, (l = ['{'] ∧ r = ['}']) ∨ (l = ['['] ∧ r = [']']) → gTermOKB t = true → gTermsOKB ts = true →
      P t → Q ts → P (.set l (.cons t ts) r))
    (stmt : ∀ cop s p, gCopOKB cop = true → gTermOKB s = true → gTermOKB p = true → P s → P p → P (.stmt cop s p))
    (nil : Q .nil)
    (cons : ∀ t ts, gTermOKB t = true → gTermsOKB ts = true → P t → Q ts → Q (.cons t ts)) :
    (∀ t, gTermOKB t = true → P t) ∧ ∀ ts, gTermsOKB ts = true → Q ts :=
  ⟨term, terms⟩
where
  term : ∀ t, gTermOKB t = true → P t
    | .atom pre name, h => atom pre name (by simpa only [gTermOKB] using h)
    | .compound conn .nil, h => by simp [gTermOKB, isNil] at h
    | .compound conn (.cons t ts), h => by
      simp only [gTermOKB, gTermsOKB, isNil, Bool.and_eq_true] at h
      exact compound conn t ts h.1.1 h.2.1 h.2.2 (term t h.2.1) (terms ts h.2.2)
    | .set l .nil r, h => by simp [gTermOKB, isNil] at h
    | .set l (.cons t ts) r, h => by
      simp only [gTermOKB, gTermsOKB, isNil, Bool.and_eq_true, Bool.or_eq_true, beq_iff_eq] at h
      exact set l r t ts h.1.1 h.2.1 h.2.2 (term t h.2.1) (terms ts h.2.2)
    | .stmt cop s p, h => by
      simp only [gTermOKB, Bool.and_eq_true] at h
      exact stmt cop s p h.1.1 h.1.2 h.2 (term s h.1.2) (term p h.2)
  terms : ∀ ts, gTermsOKB ts = true → Q ts
    | .nil, _ => nil
    | .cons t ts, h => by
      simp only [gTermsOKB, Bool.and_eq_true] at h
      exact cons t ts h.1 h.2 (term t h.1) (terms ts h.2)

section
variable {L : LFormat} (hL : GLayout L)
include hL

theorem ev_term_tail :
    (∀ t, gTermOKB t = true → ∀ rest, stopGB rest = true →
      Ev RG false (.ref "term") (L.fmtTerm t ++ rest) (some (rest, [termTree L t]))) ∧
    ∀ ts, gTermsOKB ts = true → ∀ rest, closeB rest = true → ∀ acc,
      Many RG false (.seq (.lit [',']) (.ref "term")) (tailL sepSp (fmtTerms L ts) ++ rest) acc
        (rest, acc ++ termTrees L ts) := by
  apply gTerm_induct
  case atom =>
    intro pre name ha rest hr
    obtain ⟨c, cs, e, _, hop⟩ := atom_head ha
    have := term_of_atom (X := pre ++ name) (rest := rest)
      (fun d hd => by rw [e] at hd; cases hd; exact hop) (ev_atom pre name rest ha hr)
    simpa [fmtTerm, termTree] using this
  case compound =>
    intro conn t ts hconn ht _ iht ihts rest _
    have hcl : closeB (')' :: rest) = true := rfl
    have hc := ev_components ')' hcl
      (((ev_lit1_hit false '(' _).andThen (skip_none false (noWs_conn hconn _)) (ev_connecter conn _ hconn) rfl).andThen
        (skip_none false (noWs_cons (c := ',') (by decide +kernel))) (ev_lit1_hit false ',' _) rfl)
      (skip_space (noWs_term hL t ht _)) (iht _ (tail_facts _ hcl).2) (tail_facts _ hcl).1 (ihts _ hcl [])
    have := term_of_compound (X := L.fmtTerm (.compound conn (.cons t ts))) (rest := rest)
      (by rw [gtxt_compound hL]; simp) (ev_ref_tok rule_compound rfl (by
        rw [gtxt_compound hL]; exact ev_alt_l (ev_alt_l hc)))
    simpa [termTree, termTrees] using this
  case set =>
    intro l r t ts hlr ht _ iht ihts rest _
    -- the part after the opening bracket `o`, for either pair of brackets
    have hc (o cl : Char) (hcl : closeB (cl :: rest) = true) := ev_components cl hcl
      (ev_lit1_hit false o _) (skip_none false (noWs_term hL t ht _)) (iht _ (tail_facts _ hcl).2) (tail_facts _ hcl).1
      (ihts _ hcl [])
    have hb : Ev RG false compoundBody (L.fmtTerm (.set l (.cons t ts) r) ++ rest)
        (some (rest, termTree L t :: termTrees L ts)) := by
      rw [gtxt_set hL]
      rcases hlr with ⟨rfl, rfl⟩ | ⟨rfl, rfl⟩
      · exact ev_alt_l (ev_alt_r (ev_first_fail (ev_lit1_miss false '(' '{' _ (by decide))) (hc '{' '}' rfl))
      · exact ev_alt_r (ev_alt_r (ev_first_fail (ev_lit1_miss false '(' '[' _ (by decide)))
          (ev_first_fail (ev_lit1_miss false '{' '[' _ (by decide)))) (hc '[' ']' rfl)
    have := term_of_compound (X := L.fmtTerm (.set l (.cons t ts) r)) (rest := rest)
      (by rw [gtxt_set hL]; rcases hlr with ⟨rfl, rfl⟩ | ⟨rfl, rfl⟩ <;> simp) (ev_ref_tok rule_compound rfl hb)
    simpa [termTree, termTrees] using this
  case stmt =>
    intro cop s p hcop hs hp ihs ihp rest _
    obtain ⟨hcl, hcg, _⟩ := gCop_cases hcop
    have hb : Ev RG false statementBody (L.fmtTerm (.stmt cop s p) ++ rest)
        (some (rest, [termTree L s, .node "copula" cop [], termTree L p])) := by
      rw [gtxt_stmt hL]
      exact ((((ev_lit1_hit false '<' _).andThen (skip_none false (noWs_term hL s hs _))
        (ihs _ (stopG_cop hcop _)) rfl).andThen
        (skip_space (noWs_cop hcop _)) (ev_copula_tok cop _ hcl hcg) rfl).andThen
        (skip_space (noWs_term hL p hp _)) (ihp _ (stopG_char _ (by decide +kernel))) rfl).andThen
        (skip_none false (noWs_cons (c := '>') (by decide +kernel))) (ev_lit1_hit false '>' rest) rfl
    simpa [termTree] using term_of_statement (ev_ref_tok rule_statement rfl hb)
  case nil =>
    intro rest hcl acc
    have hf := close_facts hcl
    have := Many.stop_fail false (.seq (.lit [',']) (.ref "term")) rest rest acc (skip_none false hf.1)
      (Ev.seq_fail _ _ _ _ (ev_lit1_fail false ',' rest hf.2.2))
    simpa [fmtTerms, tailL, termTrees] using this
  case cons =>
    intro t ts ht _ iht ihts rest hcl acc
    have e : tailL sepSp (fmtTerms L (.cons t ts)) ++ rest =
        ',' :: ' ' :: (L.fmtTerm t ++ (tailL sepSp (fmtTerms L ts) ++ rest)) := by
      simp only [fmtTerms, tailL, sepSp, List.append_assoc, List.cons_append, List.nil_append]
    rw [e]
    have h12 := (ev_lit1_hit false ',' _).andThen (skip_space (noWs_term hL t ht _))
      (iht _ (tail_facts (fmtTerms L ts) hcl).2) rfl
    have := Many.step false _ _ _ _ _ acc _ (skip_none false (noWs_cons (c := ',') (by decide +kernel))) h12
      (by simp only [List.length_cons, List.length_append]; omega) (ihts rest hcl (acc ++ [termTree L t]))
    simpa [termTrees] using this

theorem ev_term : ∀ (t : LTerm), gTermOKB t = true → ∀ (rest : Str), stopGB rest = true →
      Ev RG false (.ref "term") (L.fmtTerm t ++ rest) (some (rest, [termTree L t])) :=
  (ev_term_tail hL).1

/-- the `("," ~ term)*` loop over the remaining components -/
theorem ev_tail : ∀ (ts : LTerms), gTermsOKB ts = true → ∀ (rest : Str), closeB rest = true → ∀ (acc : List PTree),
      Many RG false (.seq (.lit [',']) (.ref "term")) (tailL sepSp (fmtTerms L ts) ++ rest) acc
        (rest, acc ++ termTrees L ts) :=
  (ev_term_tail hL).2

end

end Narsese.Peg
