/-
  From the lexical well-formedness of C02 (`wfLT`, `sentOKB`, `wfLNB`: keywords drawn from the
  format's dictionaries) to the grammar-side well-formedness — given that every keyword of the format
  satisfies the grammar-side predicates (`vocabFactsB`, decided on the regenerated ASCII table) and that the value
  satisfies `gExtraB`: the atom names are grammar names (`gNamesB`: the property's restriction on names, made
  precise), and the stamp shape and the `$` condition, which `Proofs/Peg/Vocab2.lean` derives from C02's hypotheses.
-/
import Proofs.Peg.Classes
import Proofs.LRT.Bool
set_option autoImplicit false

namespace Narsese.Peg
open LFormat

/-- what `gAtomOKB` asks of the prefix of an atom -/
def prefixOKB (p : Str) : Bool :=
  p == ['_'] || (p.all psB && (match p with | c :: _ => !(c == '_') && !openerB c | [] => true))

/-- every keyword of the format is one the README grammar's rules read whole -/
def vocabFactsB (L : LFormat) : Bool :=
  L.connecters.all gConnB && L.copulas.all gCopOKB && L.punctuations.all gPunctB &&
  L.setBrackets.all (fun p => (p.1 == ['{'] && p.2 == ['}']) || (p.1 == ['['] && p.2 == [']'])) &&
  L.atomPrefixes.all prefixOKB

theorem isNumCh_dd (c : Char) : isNumCh c = ddB c := by
  have e : isDigit c = inRanges [(48, 57)] c := by
    simp only [isDigit, inRanges, show '0'.toNat = 48 from rfl, show '9'.toNat = 57 from rfl]
    by_cases h1 : c.toNat < 48 <;> by_cases h2 : c.toNat ≤ 57 <;> simp [h1, h2] <;> omega
  rw [isNumCh, ddB, e]

theorem numStr_gNum {x : Str} (h : numStrB x = true) : gNumB x = true := by
  simp only [numStrB, gNumB, Bool.and_eq_true, List.all_eq_true] at h ⊢
  exact ⟨h.1, fun c hc => by rw [← isNumCh_dd]; exact h.2 c hc⟩

structure VocabFacts (L : LFormat) : Prop where
  conn : ∀ c ∈ L.connecters, gConnB c = true
  cop : ∀ c ∈ L.copulas, gCopOKB c = true
  punct : ∀ p ∈ L.punctuations, gPunctB p = true
  set : ∀ p ∈ L.setBrackets, (p.1 = ['{'] ∧ p.2 = ['}']) ∨ (p.1 = ['['] ∧ p.2 = [']'])
  pre : ∀ p ∈ L.atomPrefixes, prefixOKB p = true

section
variable {L : LFormat} (hV : vocabFactsB L = true)
include hV

theorem vocab_split : VocabFacts L := by
  simp only [vocabFactsB, Bool.and_eq_true, List.all_eq_true, Bool.or_eq_true, beq_iff_eq] at hV
  obtain ⟨⟨⟨⟨h1, h2⟩, h3⟩, h4⟩, h5⟩ := hV
  exact ⟨h1, h2, h3, h4, h5⟩

mutual
  theorem gTerm_of_wf : ∀ (t : LTerm), wfLT L t = true → gNamesB t = true → gTermOKB t = true
    | .atom pre name, hw, hn => by
      obtain ⟨⟨j, hj, _⟩, _⟩ := lAtomOK_split (by simpa only [wfLT] using hw)
      have hp := (vocab_split hV).pre pre (List.mem_of_getElem? hj)
      simp only [gNamesB] at hn
      simp only [gTermOKB, gAtomOKB]
      by_cases e : pre = ['_']
      · subst e; simpa using hn
      · have e' : (pre == ['_']) = false := by simpa using e
        simp only [e', Bool.false_eq_true, if_false] at hn ⊢
        simp only [prefixOKB, e', Bool.false_or, Bool.and_eq_true] at hp
        simp only [Bool.and_eq_true]
        exact ⟨hp, hn⟩
    | .compound conn ts, hw, hn => by
      simp only [wfLT, Bool.and_eq_true, List.contains_eq_mem, decide_eq_true_eq] at hw
      simp only [gNamesB] at hn
      simp only [gTermOKB, Bool.and_eq_true]
      exact ⟨⟨(vocab_split hV).conn conn hw.1.1, hw.1.2⟩, gTerms_of_wf ts hw.2 hn⟩
    | .set l ts r, hw, hn => by
      simp only [wfLT, Bool.and_eq_true, List.contains_eq_mem, decide_eq_true_eq] at hw
      simp only [gNamesB] at hn
      simp only [gTermOKB, Bool.and_eq_true, Bool.or_eq_true, beq_iff_eq]
      exact ⟨⟨(vocab_split hV).set (l, r) hw.1.1, hw.1.2⟩, gTerms_of_wf ts hw.2 hn⟩
    | .stmt cop s p, hw, hn => by
      simp only [wfLT, Bool.and_eq_true, List.contains_eq_mem, decide_eq_true_eq] at hw
      simp only [gNamesB, Bool.and_eq_true] at hn
      simp only [gTermOKB, Bool.and_eq_true]
      exact ⟨⟨(vocab_split hV).cop cop hw.1.1, gTerm_of_wf s hw.1.2 hn.1⟩, gTerm_of_wf p hw.2 hn.2⟩
  theorem gTerms_of_wf : ∀ (ts : LTerms), wfLTs L ts = true → gNamesBs ts = true → gTermsOKB ts = true
    | .nil, _, _ => by simp [gTermsOKB]
    | .cons t ts, hw, hn => by
      simp only [wfLTs, Bool.and_eq_true] at hw
      simp only [gNamesBs, Bool.and_eq_true] at hn
      simp only [gTermsOKB, Bool.and_eq_true]
      exact ⟨gTerm_of_wf t hw.1 hn.1, gTerms_of_wf ts hw.2 hn.2⟩
end

theorem gSent_of_wf (s : LSentence) (hw : sentOKB L s = true) (hn : gNamesB s.term = true)
    (hst : gStampB s.stamp = true) : gSentOKB s = true := by
  simp only [sentOKB, Bool.and_eq_true, List.contains_eq_mem, decide_eq_true_eq, List.all_eq_true] at hw
  simp only [gSentOKB, Bool.and_eq_true, List.all_eq_true]
  exact ⟨⟨⟨gTerm_of_wf hV s.term hw.1.1.1 hn, (vocab_split hV).punct _ hw.1.1.2⟩, hst⟩,
    fun x hx => numStr_gNum (hw.2 x hx)⟩

theorem gVal_of_wf (v : LNarsese) (hw : wfLNB L v = true) (hx : gExtraB L v = true) : gValOKB L v = true := by
  cases v with
  | term t =>
    simp only [wfLNB, Bool.and_eq_true] at hw
    simp only [gExtraB, Bool.and_eq_true] at hx
    simp only [gValOKB, Bool.and_eq_true]
    exact ⟨gTerm_of_wf hV t hw.1.1.1.1 hx.1, hx.2⟩
  | sentence s =>
    simp only [wfLNB, Bool.and_eq_true] at hw
    simp only [gExtraB, Bool.and_eq_true] at hx
    simp only [gValOKB, Bool.and_eq_true]
    exact ⟨gSent_of_wf hV s hw.1 hx.1.1 hx.1.2, hx.2⟩
  | task k =>
    simp only [wfLNB, Bool.and_eq_true, List.all_eq_true] at hw
    simp only [gExtraB, Bool.and_eq_true] at hx
    simp only [gValOKB, gTaskOKB, Bool.and_eq_true, List.all_eq_true]
    exact ⟨fun x hx' => numStr_gNum (hw.2 x hx'), gSent_of_wf hV k.sentence hw.1 hx.1 hx.2⟩

end

end Narsese.Peg
