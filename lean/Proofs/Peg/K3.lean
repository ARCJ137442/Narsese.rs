/-
  The K3 class, as a theorem. A word whose name contains the README grammar's first copula
  alternative (`punct_sym "-" punct_sym`, e.g. `_-_`) is NOT a sentence of the grammar: `atom_content` stops at
  the first such place, the remainder is at best taken for a punctuation mark, and the start rule never reaches
  the end of the input — by determinism of the semantics there is then no derivation of the whole string at all.
  So the exclusion `noCopIn` in `gNameOKB` is necessary, not an artefact of the proof.
-/
import Proofs.Peg.Whole
import Proofs.Peg.Det
set_option autoImplicit false

namespace Narsese.Peg

/-- between name characters only the first copula alternative can match -/
theorem gcop_ac {a b : Char} (c : Char) (r : Str) (ha : acB a = true) (hb : acB b = true) :
    gcopB (a :: b :: c :: r) = cop1B (a :: b :: c :: r) := by
  simp [gcop_of_ac ha, cop1B, beq_of_ac ac_eq hb]

/-- the word `c v1 x - z w` where `c` is a letter / number, `v1` name characters, `x` and `z`
punctuation / symbol characters (inside a name: `_` or `-`), and this is the first place where a grammar copula
begins — no derivation of the whole string from `narsese` exists -/
theorem k3_class (c x z : Char) (v1 w : Str) (hc : lnB c = true) (hv : v1.all acB = true)
    (hx : psB x = true) (hz : psB z = true)
    (hfirst : ∀ s, s ≠ [] → s <:+ v1 → gcopB (s ++ x :: '-' :: z :: w) = false) :
    ∀ val, ¬ Reads RG (c :: v1 ++ x :: '-' :: z :: w) val := by
  have hp : gcopB (x :: '-' :: z :: w) = true := by simp [gcopB, hx, hz]
  have hcac : acB c = true := by simp [acB, hc]
  have hhead : ∀ d ∈ ((c :: v1) ++ x :: '-' :: z :: w).head?, d = c := fun d hd => by cases hd; rfl
  -- `atom_content` = `c v1`, what is left is `x - z w`
  have hcontent : Ev RG false (.ref "atom_content") ((c :: v1) ++ x :: '-' :: z :: w)
      (some (x :: '-' :: z :: w, [.node "atom_content" (c :: v1) []])) := by
    refine ev_ref_tokA rule_atom_content rfl (kids := [] ++ []) ?_
    exact ev_seqA_ok (single_atom_char.hit _ hcac)
      (Ev.star _ _ _ _ (many_content v1 _ [] hv hfirst fun h => absurd hp (by simp [h])))
  have hterm := term_of_atom (fun d hd => by rw [hhead d hd]; exact ln_not_opener hc)
    (atom_of_content (fun d hd => by rw [hhead d hd]; exact hc) hcontent)
  -- the sentence alternative takes `x` for the punctuation and stops before `- z w`
  have hnw : NoWs ('-' :: z :: w) := noWs_cons (by decide +kernel)
  obtain ⟨k, hbody⟩ : ∃ k, Ev RG false sentenceBody ((c :: v1 ++ [x]) ++ '-' :: z :: w) (some ('-' :: z :: w, k)) :=
    ⟨_, by
      rw [List.append_assoc]
      exact ((hterm.andThen (skip_none false (noWs_cons (ps_not_ws hx))) (ev_punct x _ hx) rfl).andThen
        (skip_none false hnw) (Ev.opt_none _ _ _ (stamp_fail _ (by simp))) rfl).andThen
        (skip_none false hnw) (Ev.opt_none _ _ _ (truth_fail _ (by simp))) rfl⟩
  have htask := task_fail_head ((c :: v1 ++ [x]) ++ '-' :: z :: w) (by
    intro d hd; cases hd
    intro e; rw [← e] at hc; revert hc; decide +kernel)
  have hn := ev_ref_tok rule_narsese rfl
    (ev_alt_l (ev_alt_r htask (ev_ref_tok rule_sentence rfl hbody)))
  -- so the start rule leaves `- z w`, and by determinism it cannot also reach the end of the input
  intro val ⟨t, d, _⟩
  rw [DerivesAll, show c :: v1 ++ x :: '-' :: z :: w = (c :: v1 ++ [x]) ++ '-' :: z :: w by simp] at d
  cases ev_det d hn

end Narsese.Peg
