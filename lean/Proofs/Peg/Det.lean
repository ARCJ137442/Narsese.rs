/-
  The interpreter is also complete — every derivation of the declarative semantics is found with enough fuel — so
  `Ev` is the graph of `runS`, and two properties of the semantics are read off the interpreter. It is deterministic:
  hence the grammar's reading of a string is unique (`reads_unique`), and a string on which the sound interpreter
  answers "no value" has no reading at all (`referenceS_none`). And it depends on a grammar only through its rule and
  class lookups (`ev_congr`): this carries the conformance theorem from the grammar block of README.md to the block
  of README.en.md (same rules under the same names, in whatever order).
-/
import Proofs.Peg.Sound
set_option autoImplicit false

namespace Narsese.Peg

/-- `f` has the value `x` at every large enough fuel -/
def Settles {α : Type} (f : Nat → α) (x : α) : Prop := ∃ n, ∀ m, n ≤ m → f m = x

namespace Settles
variable {α β γ δ : Type} {f : Nat → α} {g : Nat → β} {h : Nat → γ} {e : Nat → δ} {x : α} {y : β} {z : γ} {w : δ}

theorem unique {x' : α} (h1 : Settles f x) (h2 : Settles f x') : x = x' := by
  obtain ⟨n1, h1⟩ := h1
  obtain ⟨n2, h2⟩ := h2
  rw [← h1 (n1 + n2) (by omega), h2 (n1 + n2) (by omega)]

theorem witness (h1 : Settles f x) : ∃ n, f n = x := by
  obtain ⟨n, h1⟩ := h1
  exact ⟨n, h1 n (Nat.le_refl n)⟩

theorem const (x : α) : Settles (fun _ => x) x := ⟨0, fun _ _ => rfl⟩

/-- one more unit of fuel, once three sub-computations have settled -/
theorem step3 (h1 : Settles f x) (h2 : Settles g y) (h3 : Settles h z)
    (hw : ∀ m, f m = x → g m = y → h m = z → e (m + 1) = w) : Settles e w := by
  obtain ⟨n1, h1⟩ := h1
  obtain ⟨n2, h2⟩ := h2
  obtain ⟨n3, h3⟩ := h3
  refine ⟨n1 + n2 + n3 + 1, fun m hm => ?_⟩
  obtain ⟨m, rfl⟩ : ∃ k, m = k + 1 := ⟨m - 1, by omega⟩
  exact hw m (h1 m (by omega)) (h2 m (by omega)) (h3 m (by omega))

theorem step2 (h1 : Settles f x) (h2 : Settles g y) (hw : ∀ m, f m = x → g m = y → e (m + 1) = w) : Settles e w :=
  step3 h1 h2 (const ()) fun m e1 e2 _ => hw m e1 e2

theorem step1 (h1 : Settles f x) (hw : ∀ m, f m = x → e (m + 1) = w) : Settles e w :=
  step2 h1 (const ()) fun m e1 _ => hw m e1

theorem step0 (hw : ∀ m, e (m + 1) = w) : Settles e w :=
  step1 (const ()) fun m _ => hw m

end Settles

variable {G : Grammar}

mutual
  theorem runS_complete : ∀ {a : Bool} {p : Peg} {s : Str} {res : Option (Str × List PTree)},
      Ev G a p s res → Settles (fun m => runS G m a p s) (PR.ofOpt res)
    | _, _, _, _, .lit a k s => .step0 fun m => by simp only [runS]; cases strip k s <;> rfl
    | _, _, _, _, .cls_ok a n tbl c cs h1 h2 => .step0 fun m => by simp only [runS, h1, h2, if_true, PR.ofOpt]
    | _, _, _, _, .cls_no a n tbl c cs h1 h2 => .step0 fun m => by
      simp only [runS, h1, h2, Bool.false_eq_true, if_false, PR.ofOpt]
    | _, _, _, _, .cls_eof a n => .step0 fun m => by simp only [runS]; cases G.cls? n <;> rfl
    | _, _, _, _, .cls_unknown a n s h => .step0 fun m => by simp only [runS, h, PR.ofOpt]
    | _, _, _, _, .ref a n r s res h hb => (runS_complete hb).step1 fun m e1 => by
      simp only [runS, h, e1, wrapRefS_ofOpt]
    | _, _, _, _, .ref_unknown a n s h => .step0 fun m => by simp only [runS, h, PR.ofOpt]
    | _, _, _, _, .seq_fail a p q s hp => (runS_complete hp).step1 fun m e1 => by simp only [runS, e1, PR.ofOpt]
    | _, _, _, _, .seq a p q s r1 r1' k1 res hp hs hq =>
      (runS_complete hp).step3 (skipS_complete hs) (runS_complete hq) fun m e1 e2 e3 => by
        simp only [runS, e1, e2, e3, PR.ofOpt]; match res with | none => rfl | some (_, _) => rfl
    | _, _, _, _, .alt_l a p q s (r, k) hp => (runS_complete hp).step1 fun m e1 => by simp only [runS, e1, PR.ofOpt]
    | _, _, _, _, .alt_r a p q s res hp hq => (runS_complete hp).step2 (runS_complete hq) fun m e1 e2 => by
      simp only [runS, e1, e2, PR.ofOpt]
    | _, _, _, _, .opt_some a p s (r, k) hp => (runS_complete hp).step1 fun m e1 => by simp only [runS, e1, PR.ofOpt]
    | _, _, _, _, .opt_none a p s hp => (runS_complete hp).step1 fun m e1 => by simp only [runS, e1, PR.ofOpt]
    | _, _, _, _, .neg_some a p s (r, k) hp => (runS_complete hp).step1 fun m e1 => by simp only [runS, e1, PR.ofOpt]
    | _, _, _, _, .neg_none a p s hp => (runS_complete hp).step1 fun m e1 => by simp only [runS, e1, PR.ofOpt]
    | _, _, _, _, .star a p s (r, k) hm => (manyS_complete hm).step1 fun m e1 => by simp only [runS, e1, PR.ofOpt]
    | _, _, _, _, .plus_fail a p s hp => (runS_complete hp).step1 fun m e1 => by simp only [runS, e1, PR.ofOpt]
    | _, _, _, _, .plus a p s r1 k1 (r, k) hp hm => (runS_complete hp).step2 (manyS_complete hm) fun m e1 e2 => by
      simp only [runS, e1, e2, PR.ofOpt]

  theorem manyS_complete : ∀ {a : Bool} {p : Peg} {s : Str} {acc : List PTree} {o : Str × List PTree},
      Many G a p s acc o → Settles (fun m => manyS G m a p s acc) (.ok o.1 o.2)
    | _, _, _, _, _, .stop_fail a p s s' acc hs hp => (skipS_complete hs).step2 (runS_complete hp) fun m e1 e2 => by
      simp only [manyS, e1, e2, PR.ofOpt]
    | _, _, _, _, _, .stop_stuck a p s s' r k acc hs hp hl =>
      (skipS_complete hs).step2 (runS_complete hp) fun m e1 e2 => by simp only [manyS, e1, e2, PR.ofOpt, hl, if_false]
    | _, _, _, _, _, .step a p s s' r k acc out hs hp hl hm =>
      (skipS_complete hs).step3 (runS_complete hp) (manyS_complete hm) fun m e1 e2 e3 => by
        simp only [manyS, e1, e2, e3, PR.ofOpt, hl, if_true]

  theorem skipS_complete : ∀ {a : Bool} {s s' : Str}, Skip G a s s' → Settles (fun m => skipS G m a s) (.ok s')
    | _, _, _, .atomic s => .step0 fun m => by simp only [skipS, if_true]
    | _, _, _, .no_rule s h => .step0 fun m => by simp only [skipS, h, Bool.false_eq_true, if_false]
    | _, _, _, .stop s r h he => (runS_complete he).step1 fun m e1 => by
      simp only [skipS, h, e1, PR.ofOpt, Bool.false_eq_true, if_false]
    | _, _, _, .stuck s rest r k h he hl => (runS_complete he).step1 fun m e1 => by
      simp only [skipS, h, e1, PR.ofOpt, hl, Bool.false_eq_true, if_false]
    | _, _, _, .step s rest s' r k h he hl hs => (runS_complete he).step2 (skipS_complete hs) fun m e1 e2 => by
      simp only [skipS, h, e1, e2, PR.ofOpt, hl, Bool.false_eq_true, if_false, if_true]
end

/-- the semantics is the graph of the interpreter -/
theorem ev_iff_runS {a : Bool} {p : Peg} {s : Str} {res : Option (Str × List PTree)} :
    Ev G a p s res ↔ ∃ fuel, runS G fuel a p s = PR.ofOpt res :=
  ⟨fun h => (runS_complete h).witness, fun ⟨fuel, h⟩ => runS_ev G fuel a p s res h⟩

/-! ### determinism -/

theorem ev_det : ∀ {a : Bool} {p : Peg} {s : Str} {r1 r2 : Option (Str × List PTree)},
    Ev G a p s r1 → Ev G a p s r2 → r1 = r2 :=
  fun h1 h2 => PR.ofOpt_inj ((runS_complete h1).unique (runS_complete h2))

theorem many_det : ∀ {a : Bool} {p : Peg} {s : Str} {acc : List PTree} {o1 o2 : Str × List PTree},
    Many G a p s acc o1 → Many G a p s acc o2 → o1 = o2 :=
  fun h1 h2 => (PR.ok.inj ((manyS_complete h1).unique (manyS_complete h2))).elim Prod.ext

theorem skip_det : ∀ {a : Bool} {s s1 s2 : Str}, Skip G a s s1 → Skip G a s s2 → s1 = s2 :=
  fun h1 h2 => SR.ok.inj ((skipS_complete h1).unique (skipS_complete h2))

theorem reads_unique {s : Str} {v w : LNarsese} (h1 : Reads G s v) (h2 : Reads G s w) : v = w := by
  obtain ⟨t1, d1, r1⟩ := h1
  obtain ⟨t2, d2, r2⟩ := h2
  cases ev_det d1 d2
  exact Option.some.inj (r1.symm.trans r2)

/-- when the interpreter answers (its fuel sufficed), it finds the reading -/
theorem reads_runS {s : Str} {v : LNarsese} (h : Reads G s v) (fuel : Nat) :
    runS G fuel false (.ref "narsese") s = .out ∨
      ∃ t, runS G fuel false (.ref "narsese") s = .ok [] [t] ∧ toNarsese t = some v := by
  obtain ⟨t, d, rt⟩ := h
  cases hr : runS G fuel false (.ref "narsese") s with
  | out => exact Or.inl rfl
  | fail => cases ev_det d (runS_ev G _ _ _ _ none hr)
  | ok rest kids =>
    cases ev_det d (runS_ev G _ _ _ _ (some (rest, kids)) hr)
    exact Or.inr ⟨t, rfl, rt⟩

def PR.answered : PR → Bool
  | .out => false
  | _ => true

/-- hence the interpreter's answer is the only reading: in particular a string on which it answers "no value" has no reading -/
theorem referenceS_none (s : Str)
    (hrun : (runS G (40 * s.length + 400) false (.ref "narsese") s).answered = true)
    (h : referenceS G s = none) : ∀ v, ¬ Reads G s v := by
  intro v hv
  rcases reads_runS hv (40 * s.length + 400) with e | ⟨t, e, rt⟩
  · rw [e] at hrun; cases hrun
  · simp only [referenceS, parseAllS, e, Option.bind_some, rt, reduceCtorEq] at h

/-- the interpreter answered, and not with a tree for the whole input that reads as a value -/
def PR.noValue : PR → Bool
  | .out => false
  | .ok [] [t] => (toNarsese t).isNone
  | _ => true

/-- `referenceS_none` with both hypotheses read off one run of the interpreter -/
theorem no_reading_of_run (s : Str) (h : (runS G (40 * s.length + 400) false (.ref "narsese") s).noValue = true) :
    ∀ v, ¬ Reads G s v := by
  intro v hv
  rcases reads_runS hv (40 * s.length + 400) with e | ⟨t, e, rt⟩
  · rw [e] at h; cases h
  · rw [e, PR.noValue, rt] at h; cases h

/-! ### the semantics sees a grammar only through its lookups -/

variable {G' : Grammar}

theorem runS_congr (hr : ∀ n, G.rule? n = G'.rule? n) (hc : ∀ n, G.cls? n = G'.cls? n) : ∀ (fuel : Nat),
    (∀ a p s, runS G fuel a p s = runS G' fuel a p s) ∧ (∀ a p s acc, manyS G fuel a p s acc = manyS G' fuel a p s acc) ∧
    (∀ a s, skipS G fuel a s = skipS G' fuel a s)
  | 0 => ⟨fun _ _ _ => rfl, fun _ _ _ _ => rfl, fun _ _ => rfl⟩
  | fuel + 1 => by
    obtain ⟨ih1, ih2, ih3⟩ := runS_congr hr hc fuel
    refine ⟨fun a p s => ?_, fun a p s acc => ?_, fun a s => ?_⟩
    · cases p <;> simp only [runS, hr, hc, ih1, ih2, ih3]
    · simp only [manyS, ih1, ih2, ih3]
    · simp only [skipS, hr, ih1, ih3]

theorem ev_congr (hr : ∀ n, G.rule? n = G'.rule? n) (hc : ∀ n, G.cls? n = G'.cls? n) :
    ∀ {a : Bool} {p : Peg} {s : Str} {r : Option (Str × List PTree)}, Ev G a p s r → Ev G' a p s r := by
  intro a p s r h
  obtain ⟨n, e⟩ := ev_iff_runS.mp h
  exact ev_iff_runS.mpr ⟨n, (runS_congr hr hc n).1 a p s ▸ e⟩

theorem many_congr (hr : ∀ n, G.rule? n = G'.rule? n) (hc : ∀ n, G.cls? n = G'.cls? n) :
    ∀ {a : Bool} {p : Peg} {s : Str} {acc : List PTree} {o : Str × List PTree}, Many G a p s acc o → Many G' a p s acc o := by
  intro a p s acc o h
  obtain ⟨n, e⟩ := (manyS_complete h).witness
  rw [(runS_congr hr hc n).2.1] at e
  exact manyS_sound G' n a p s acc o.1 o.2 e

theorem skip_congr (hr : ∀ n, G.rule? n = G'.rule? n) (hc : ∀ n, G.cls? n = G'.cls? n) :
    ∀ {a : Bool} {s s' : Str}, Skip G a s s' → Skip G' a s s' := by
  intro a s s' h
  obtain ⟨n, e⟩ := (skipS_complete h).witness
  rw [(runS_congr hr hc n).2.2] at e
  exact skipS_sound G' n a s s' e

theorem reads_congr (hr : ∀ n, G.rule? n = G'.rule? n) (hc : ∀ n, G.cls? n = G'.cls? n) {s : Str} {v : LNarsese}
    (h : Reads G s v) : Reads G' s v := by
  obtain ⟨t, d, e⟩ := h
  exact ⟨t, ev_congr hr hc d, e⟩

theorem rule?_some {n : String} {r : Rule} (e : G.rule? n = some r) : r ∈ G.rules ∧ r.name = n :=
  ⟨List.mem_of_find?_eq_some e, by simpa using List.find?_some e⟩

theorem rule_lookup_eq (h1 : ∀ r ∈ G.rules, G'.rule? r.name = some r) (h2 : ∀ r ∈ G'.rules, G.rule? r.name = some r)
    (n : String) : G.rule? n = G'.rule? n := by
  cases e : G.rule? n with
  | some r =>
    obtain ⟨hm, rfl⟩ := rule?_some e
    exact (h1 r hm).symm
  | none =>
    cases e' : G'.rule? n with
    | none => rfl
    | some r' =>
      obtain ⟨hm, rfl⟩ := rule?_some e'
      rw [h2 r' hm] at e
      cases e

end Narsese.Peg
