/-
  The lexical rules of the README grammar — `punct_sym`, `atom_char`, `copula`, `connecter`,
  `atom_prefix`, `atom_content` — characterised on arbitrary input (what they match, where they stop).
-/
import Proofs.Peg.Basic
set_option autoImplicit false

namespace Narsese.Peg

/-! ### one-character matchers -/

/-- `p` consumes exactly one character satisfying `f` (inside an atomic rule, contributing no token) -/
structure Single (p : Peg) (f : Char → Bool) : Prop where
  cons : ∀ c cs, Ev RG true p (c :: cs) (if f c then some (cs, []) else none)
  nil : Ev RG true p [] none

theorem Single.congr {p : Peg} {f g : Char → Bool} (h : Single p f) (e : ∀ c, f c = g c) : Single p g :=
  ⟨fun c cs => by rw [← e c]; exact h.cons c cs, h.nil⟩

theorem single_lit (k : Char) : Single (.lit [k]) (fun c => k == c) :=
  ⟨fun c cs => by simpa only [beq_iff_eq] using ev_lit1_cons (G := RG) true k c cs, ev_lit1_nil true k⟩

theorem single_cls (n : String) (tbl : List (Nat × Nat)) (h : RG.cls? n = some tbl) : Single (.cls n) (inRanges tbl) :=
  ⟨fun c cs => ev_cls_cons true n tbl h c cs, Ev.cls_eof true n⟩

theorem single_alt {p q : Peg} {f g : Char → Bool} (hp : Single p f) (hq : Single q g) :
    Single (.alt p q) (fun c => f c || g c) :=
  ⟨fun c cs => by
    have := ev_alt (hp.cons c cs) (hq.cons c cs)
    cases hf : f c <;> cases hg : g c <;> simpa [hf, hg] using this,
   ev_alt hp.nil hq.nil⟩

theorem single_ref {n : String} {r : Rule} {f : Char → Bool} (hr : RG.rule? n = some r) (hm : r.mod ≠ .silent)
    (hb : Single r.body f) : Single (.ref n) f :=
  ⟨fun c cs => by
    have := ev_ref_inA hr hm (hb.cons c cs)
    cases hf : f c <;> simpa [hf] using this,
   ev_ref_inA hr hm hb.nil⟩

theorem rule_punct_sym : RG.rule? "punct_sym" =
    some { name := "punct_sym", mod := .normal, body := .alt (.cls "PUNCTUATION") (.cls "SYMBOL") } := by decide +kernel

theorem single_punct_sym : Single (.ref "punct_sym") psB :=
  (single_ref rule_punct_sym (by decide) (single_alt (single_cls _ _ cls_punct) (single_cls _ _ cls_symbol))).congr
    (fun _ => rfl)

def atomCharBody : Peg := .alt (.alt (.alt (.cls "LETTER") (.cls "NUMBER")) (.lit ['_'])) (.lit ['-'])

theorem rule_atom_char : RG.rule? "atom_char" = some { name := "atom_char", mod := .normal, body := atomCharBody } := by
  decide +kernel

theorem single_atom_char : Single (.ref "atom_char") acB :=
  (single_ref rule_atom_char (by decide)
    (single_alt (single_alt (single_alt (single_cls _ _ cls_letter) (single_cls _ _ cls_number)) (single_lit '_'))
      (single_lit '-'))).congr
    (fun c => by simp only [acB, lnB, BEq.comm (a := '_'), BEq.comm (a := '-')])

theorem Single.ev {p : Peg} {f : Char → Bool} (h : Single p f) (s : Str) :
    Ev RG true p s (match s with | c :: cs => if f c then some (cs, []) else none | [] => none) := by
  cases s with
  | nil => exact h.nil
  | cons c cs => exact h.cons c cs

theorem Single.hit {p : Peg} {f : Char → Bool} (h : Single p f) {c : Char} (cs : Str) (hc : f c = true) :
    Ev RG true p (c :: cs) (some (cs, [])) := by
  simpa [hc] using h.cons c cs

theorem Single.miss {p : Peg} {f : Char → Bool} (h : Single p f) {s : Str} (hs : ∀ c ∈ s.head?, f c = false) :
    Ev RG true p s none := by
  cases s with
  | nil => exact h.nil
  | cons c cs => simpa [hs c (by simp)] using h.cons c cs

/-! ### matchers of fixed width -/

/-- inside an atomic rule `p` matches exactly the inputs satisfying `f`, consuming `n` characters, without a token -/
def Fixed (p : Peg) (n : Nat) (f : Str → Bool) : Prop :=
  ∀ s, Ev RG true p s (if f s then some (s.drop n, []) else none)

def headB (f : Char → Bool) : Str → Bool
  | c :: _ => f c
  | [] => false

theorem Single.fixed {p : Peg} {f : Char → Bool} (h : Single p f) : Fixed p 1 (headB f)
  | [] => h.nil
  | c :: cs => h.cons c cs

theorem Fixed.congr {p : Peg} {n : Nat} {f g : Str → Bool} (hp : Fixed p n f) (e : ∀ s, f s = g s) : Fixed p n g :=
  fun s => e s ▸ hp s

theorem Fixed.seq {p q : Peg} {n m : Nat} {f g : Str → Bool} (hp : Fixed p n f) (hq : Fixed q m g) :
    Fixed (.seq p q) (n + m) (fun s => f s && g (s.drop n)) := fun s => by
  have h1 := hp s
  have h2 := hq (s.drop n)
  cases hf : f s with
  | false =>
    rw [hf, if_neg (by decide)] at h1
    simpa [hf] using Ev.seq_fail true p q s h1
  | true =>
    rw [hf, if_pos rfl] at h1
    cases hg : g (s.drop n) with
    | false =>
      rw [hg, if_neg (by decide)] at h2
      simpa [hf, hg] using ev_seqA_no h1 h2
    | true =>
      rw [hg, if_pos rfl, List.drop_drop] at h2
      simpa [hf, hg] using ev_seqA_ok h1 h2

theorem Fixed.alt {p q : Peg} {n : Nat} {f g : Str → Bool} (hp : Fixed p n f) (hq : Fixed q n g) :
    Fixed (.alt p q) n (fun s => f s || g s) := fun s => by
  have := ev_alt (hp s) (hq s)
  cases hf : f s <;> cases hg : g s <;> simpa [hf, hg] using this

/-! ### `copula` -/

def copulaBody : Peg :=
  .alt (.alt (.alt (.seq (.seq (.ref "punct_sym") (.lit ['-'])) (.ref "punct_sym"))
                   (.seq (.seq (.ref "punct_sym") (.lit ['='])) (.ref "punct_sym")))
             (.seq (.seq (.lit ['=']) (.ref "punct_sym")) (.lit ['>'])))
       (.seq (.seq (.lit ['<']) (.ref "punct_sym")) (.lit ['>']))

theorem rule_copula : RG.rule? "copula" = some { name := "copula", mod := .atomic, body := copulaBody } := by
  decide +kernel

theorem ev_copula_body : Fixed copulaBody 3 gcopB :=
  have P := single_punct_sym.fixed
  (((((P.seq (single_lit '-').fixed).seq P).alt ((P.seq (single_lit '=').fixed).seq P)).alt
    (((single_lit '=').fixed.seq P).seq (single_lit '>').fixed)).alt
    (((single_lit '<').fixed.seq P).seq (single_lit '>').fixed)).congr fun s => by
  match s with
  | [] | [_] | [_, _] => simp [gcopB, headB]
  | a :: b :: c :: r => simp [gcopB, headB]

/-- `copula` inside an atomic rule (the look-ahead of `atom_content`) -/
theorem ev_copula_inA (s : Str) :
    Ev RG true (.ref "copula") s (if gcopB s then some (s.drop 3, []) else none) := by
  have := ev_ref_inA rule_copula (by decide) (ev_copula_body s)
  cases h : gcopB s <;> simpa [h] using this

/-- `copula` as a token of `statement` -/
theorem ev_copula_tok (cop rest : Str) (hl : cop.length = 3) (h : gcopB cop = true) :
    Ev RG false (.ref "copula") (cop ++ rest) (some (rest, [.node "copula" cop []])) := by
  match cop, hl, h with
  | [a, b, c], _, h =>
    have := ev_copula_body (a :: b :: c :: rest)
    rw [show gcopB (a :: b :: c :: rest) = gcopB [a, b, c] from rfl, h, if_pos rfl] at this
    exact ev_ref_tokA rule_copula rfl this

/-! ### greedy runs of one-character matchers -/

theorem many_run {p : Peg} {f : Char → Bool} (hp : Single p f) (cs s : Str) (acc : List PTree)
    (hcs : cs.all f = true) (hs : ∀ c ∈ s.head?, f c = false) : Many RG true p (cs ++ s) acc (s, acc) :=
  many_each cs acc
    (fun c _ h => ⟨Skip.atomic _, hp.hit _ (List.all_eq_true.mp hcs c (h.subset List.mem_cons_self))⟩)
    (Skip.atomic s) (hp.miss hs)

theorem plus_run {p : Peg} {f : Char → Bool} (hp : Single p f) {x : Str} (s : Str) (hne : x ≠ [])
    (hx : x.all f = true) (hs : ∀ c ∈ s.head?, f c = false) : Ev RG true (.plus p) (x ++ s) (some (s, [])) := by
  cases x with
  | nil => exact absurd rfl hne
  | cons c cs =>
    simp only [List.all_cons, Bool.and_eq_true] at hx
    exact Ev.plus true p _ (cs ++ s) [] _ (hp.hit _ hx.1) (many_run hp cs s [] hx.2 hs)

/-! ### `connecter`, `atom_prefix` -/

def connecterBody : Peg := .seq (.ref "punct_sym") (.star (.seq (.neg (.lit [','])) (.ref "punct_sym")))

theorem rule_connecter : RG.rule? "connecter" = some { name := "connecter", mod := .atomic, body := connecterBody } := by
  decide +kernel

theorem single_guard {q p : Peg} {g f : Char → Bool} (hq : Single q g) (hp : Single p f) :
    Single (.seq (.neg q) p) (fun c => !g c && f c) :=
  ⟨fun c cs => by
    cases hg : g c with
    | true => simpa [hg] using Ev.seq_fail true _ p _ (Ev.neg_some _ _ _ _ (hq.hit cs hg))
    | false =>
      have h1 : Ev RG true (.neg q) (c :: cs) (some (c :: cs, [])) :=
        Ev.neg_none _ _ _ (hq.miss (s := c :: cs) (by simpa using hg))
      have h2 := hp.cons c cs
      cases hf : f c with
      | true => rw [hf, if_pos rfl] at h2; simpa [hg, hf] using ev_seqA_ok h1 h2
      | false => rw [hf, if_neg (by decide)] at h2; simpa [hg, hf] using ev_seqA_no h1 h2,
   ev_seqA_no (Ev.neg_none _ _ _ hq.nil) hp.nil⟩

theorem ev_connecter (conn rest : Str) (h : gConnB conn = true) :
    Ev RG false (.ref "connecter") (conn ++ ',' :: rest) (some (',' :: rest, [.node "connecter" conn []])) := by
  cases conn with
  | nil => simp [gConnB] at h
  | cons c cs =>
    simp only [gConnB, List.isEmpty_cons, Bool.not_false, List.all_cons, Bool.true_and, Bool.and_eq_true] at h
    refine ev_ref_tokA rule_connecter rfl (kids := [] ++ []) ?_
    refine ev_seqA_ok (r1 := cs ++ ',' :: rest) (single_punct_sym.hit _ h.1.1) (Ev.star _ _ _ _ ?_)
    exact many_run ((single_guard (single_lit ',') single_punct_sym).congr fun _ => Bool.and_comm _ _) cs (',' :: rest) []
      h.2 (by simp)

theorem rule_atom_prefix :
    RG.rule? "atom_prefix" = some { name := "atom_prefix", mod := .atomic, body := .plus (.ref "punct_sym") } := by
  decide +kernel

theorem ev_atom_prefix (pre s : Str) (hne : pre ≠ []) (hp : pre.all psB = true) (hs : ∀ c ∈ s.head?, psB c = false) :
    Ev RG false (.ref "atom_prefix") (pre ++ s) (some (s, [.node "atom_prefix" pre []])) :=
  ev_ref_tokA rule_atom_prefix rfl (plus_run single_punct_sym s hne hp hs)

theorem ev_atom_prefix_fail (s : Str) (hs : ∀ c ∈ s.head?, psB c = false) :
    Ev RG false (.ref "atom_prefix") s none :=
  ev_ref_no rule_atom_prefix (Ev.plus_fail true _ _ (single_punct_sym.miss hs))

/-! ### `atom_content` -/

def atomContentBody : Peg := .seq (.ref "atom_char") (.star (.seq (.neg (.ref "copula")) (.ref "atom_char")))

theorem rule_atom_content :
    RG.rule? "atom_content" = some { name := "atom_content", mod := .atomic, body := atomContentBody } := by
  decide +kernel

/-- what may follow a term in the ASCII formatter's output: nothing; a closer, separator or punctuation mark;
or one blank and then something that is neither blank nor `_` -/
def stopGB : Str → Bool
  | [] => true
  | c :: cs =>
    if c == ' ' then (match cs with | d :: _ => !wsB d && !(d == '_') | [] => false)
    else !acB c && !(c == '=') && !wsB c

theorem ac_eq : acB '=' = false := by decide +kernel
theorem ac_lt : acB '<' = false := by decide +kernel
theorem ac_dash : acB '-' = true := by decide +kernel

theorem beq_of_ac {k a : Char} (hk : acB k = false) (ha : acB a = true) : (k == a) = false :=
  beq_eq_false_iff_ne.mpr fun e => by rw [e, ha] at hk; cases hk

theorem stopG_head {rest : Str} (h : stopGB rest = true) : ∀ c ∈ rest.head?, acB c = false ∧ c ≠ '=' := by
  cases rest with
  | nil => exact nofun
  | cons c cs =>
    intro d hd
    cases hd
    simp only [stopGB] at h
    by_cases hc : c = ' '
    · subst hc; exact ⟨by decide +kernel, by decide⟩
    · simp only [beq_iff_eq, hc, if_false, Bool.and_eq_true, Bool.not_eq_true', beq_eq_false_iff_ne] at h
      exact ⟨h.1.1, h.1.2⟩

theorem tailOK_cons {x : Char} {v : Str} (h : tailOKB (x :: v) = true) (hv : v ≠ []) : tailOKB v = true := by
  simp only [tailOKB, List.all_cons, noCopIn, Bool.and_eq_true, Bool.not_eq_true'] at h ⊢
  refine ⟨⟨h.1.1.2, h.1.2.2⟩, ?_⟩
  have : (x :: v).getLast? = v.getLast? := by
    cases v with
    | nil => exact absurd rfl hv
    | cons y v => simp [List.getLast?_cons_cons]
  rw [← this]; exact h.2

theorem tailOK_suffix {s : Str} (hs : s ≠ []) : ∀ {v : Str}, s <:+ v → tailOKB v = true → tailOKB s = true
  | _, ⟨[], rfl⟩, h => h
  | _, ⟨_ :: u, rfl⟩, h => tailOK_suffix hs ⟨u, rfl⟩ (tailOK_cons h (by simp [hs]))

/-- after a name character only the first two copula alternatives can match -/
theorem gcop_of_ac {a : Char} (ha : acB a = true) (b c : Char) (r : Str) :
    gcopB (a :: b :: c :: r) = (psB a && '-' == b && psB c || psB a && '=' == b && psB c) := by
  simp [gcopB, beq_of_ac ac_eq ha, beq_of_ac ac_lt ha]

/-- no grammar copula begins at a character of the name's tail -/
theorem gcop_in_name {x : Char} {v rest : Str} (h : tailOKB (x :: v) = true) (hr : stopGB rest = true) :
    gcopB (x :: v ++ rest) = false := by
  simp only [tailOKB, List.all_cons, noCopIn, Bool.and_eq_true, Bool.not_eq_true'] at h
  obtain ⟨⟨⟨hx, hv⟩, hc1, _⟩, hlast⟩ := h
  cases v with
  | nil =>
    -- `x` is the last character: what follows is neither `-` nor `=`
    cases rest with
    | nil => rfl
    | cons b rest =>
      obtain ⟨hb1, hb2⟩ := stopG_head hr b rfl
      cases rest with
      | nil => rfl
      | cons c r =>
        show gcopB (x :: b :: c :: r) = false
        rw [gcop_of_ac hx, BEq.comm (a := '-'), beq_of_ac hb1 ac_dash, beq_eq_false_iff_ne.mpr (Ne.symm hb2),
          Bool.and_false]
        rfl
  | cons y v =>
    simp only [List.all_cons, Bool.and_eq_true] at hv
    have hy := beq_of_ac ac_eq hv.1
    cases v with
    | nil =>
      -- `y` is the last character, hence not `-`
      have hy1 : ('-' == y) = false := beq_eq_false_iff_ne.mpr fun e => by subst e; simp at hlast
      cases rest with
      | nil => rfl
      | cons c r =>
        show gcopB (x :: y :: c :: r) = false
        rw [gcop_of_ac hx, hy1, hy, Bool.and_false]
        rfl
    | cons z t =>
      show gcopB (x :: y :: z :: (t ++ rest)) = false
      rw [gcop_of_ac hx, show (psB x && '-' == y && psB z) = false from hc1, hy, Bool.and_false]
      rfl

/-- the loop of `atom_content` takes the name characters `v`, before none of which a grammar copula begins, and
stops at `rest` if a copula begins there or no name character follows -/
theorem many_content (v rest : Str) (acc : List PTree) (hv : v.all acB = true)
    (hno : ∀ s, s ≠ [] → s <:+ v → gcopB (s ++ rest) = false)
    (hstop : gcopB rest = false → ∀ c ∈ rest.head?, acB c = false) :
    Many RG true (.seq (.neg (.ref "copula")) (.ref "atom_char")) (v ++ rest) acc (rest, acc) := by
  refine many_each v acc (fun c t h => ⟨Skip.atomic _, ?_⟩) (Skip.atomic rest) ?_
  · have hc := ev_copula_inA (c :: t ++ rest)
    rw [hno (c :: t) (List.cons_ne_nil c t) h, if_neg (by decide)] at hc
    exact ev_seqA_ok (Ev.neg_none _ _ _ hc)
      (single_atom_char.hit _ (List.all_eq_true.mp hv c (h.subset List.mem_cons_self)))
  · have hc := ev_copula_inA rest
    cases hg : gcopB rest with
    | true => rw [hg, if_pos rfl] at hc; exact Ev.seq_fail _ _ _ _ (Ev.neg_some _ _ _ _ hc)
    | false =>
      rw [hg, if_neg (by decide)] at hc
      exact ev_seqA_no (Ev.neg_none _ _ _ hc) (single_atom_char.miss (hstop hg))

theorem ev_atom_content (name rest : Str) (h : gNameOKB name = true) (hr : stopGB rest = true) :
    Ev RG false (.ref "atom_content") (name ++ rest) (some (rest, [.node "atom_content" name []])) := by
  cases name with
  | nil => simp [gNameOKB] at h
  | cons c v =>
    simp only [gNameOKB, Bool.and_eq_true] at h
    have hc : acB c = true := by simp [acB, h.1]
    have hv : v.all acB = true := by
      have := h.2; simp only [tailOKB, List.all_cons, Bool.and_eq_true] at this; exact this.1.1.2
    refine ev_ref_tokA rule_atom_content rfl (kids := [] ++ []) ?_
    refine ev_seqA_ok (single_atom_char.hit (v ++ rest) hc) (Ev.star _ _ _ _ ?_)
    refine many_content v rest [] hv (fun s hs hsuf => ?_) (fun _ c hc => (stopG_head hr c hc).1)
    obtain ⟨x, s', rfl⟩ := List.exists_cons_of_ne_nil hs
    exact gcop_in_name (tailOK_suffix hs (hsuf.trans (List.suffix_cons c v)) h.2) hr

theorem ev_atom_content_fail (s : Str) (hs : ∀ c ∈ s.head?, acB c = false) :
    Ev RG false (.ref "atom_content") s none :=
  ev_ref_no rule_atom_content (Ev.seq_fail _ _ _ _ (single_atom_char.miss hs))

end Narsese.Peg
