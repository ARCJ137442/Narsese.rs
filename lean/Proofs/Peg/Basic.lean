/-
  Building derivations of the declarative PEG semantics — for any grammar: literals, sequences, choice,
  rule references, a loop over single characters, totality of an expression by combinators; for the README grammar:
  implicit whitespace.
-/
import Proofs.Peg.Classes
import Proofs.Strings
set_option autoImplicit false

namespace Narsese.Peg

section generic
variable {G : Grammar}

theorem ev_lit1_cons (a : Bool) (k c : Char) (cs : Str) :
    Ev G a (.lit [k]) (c :: cs) (if k = c then some (cs, []) else none) := by
  have := Ev.lit (G := G) a [k] (c :: cs)
  by_cases h : k = c <;> simpa [strip, h] using this

theorem ev_lit1_hit (a : Bool) (k : Char) (cs : Str) : Ev G a (.lit [k]) (k :: cs) (some (cs, [])) := by
  simpa using ev_lit1_cons (G := G) a k k cs

theorem ev_lit1_miss (a : Bool) (k c : Char) (cs : Str) (h : k ≠ c) : Ev G a (.lit [k]) (c :: cs) none := by
  simpa [h] using ev_lit1_cons (G := G) a k c cs

theorem ev_lit1_nil (a : Bool) (k : Char) : Ev G a (.lit [k]) [] none := by
  simpa [strip] using Ev.lit (G := G) a [k] []

theorem ev_lit1_fail (a : Bool) (k : Char) (s : Str) (h : ∀ c ∈ s.head?, k ≠ c) : Ev G a (.lit [k]) s none := by
  cases s with
  | nil => exact ev_lit1_nil a k
  | cons c cs => exact ev_lit1_miss a k c cs (h c (by simp))

theorem ev_lit_empty (a : Bool) (s : Str) : Ev G a (.lit []) s (some (s, [])) := by
  simpa [strip] using Ev.lit (G := G) a [] s

theorem ev_cls_cons (a : Bool) (n : String) (tbl : List (Nat × Nat)) (h : G.cls? n = some tbl) (c : Char) (cs : Str) :
    Ev G a (.cls n) (c :: cs) (if inRanges tbl c then some (cs, []) else none) := by
  by_cases hc : inRanges tbl c = true
  · simpa [hc] using Ev.cls_ok a n tbl c cs h hc
  · have hc' : inRanges tbl c = false := by simpa using hc
    simpa [hc'] using Ev.cls_no a n tbl c cs h hc'

theorem ev_seq_ok {a : Bool} {p q : Peg} {s r1 r1' r2 : Str} {k1 k2 : List PTree}
    (h1 : Ev G a p s (some (r1, k1))) (hs : Skip G a r1 r1') (h2 : Ev G a q r1' (some (r2, k2))) :
    Ev G a (.seq p q) s (some (r2, k1 ++ k2)) := by
  simpa using Ev.seq a p q s r1 r1' k1 _ h1 hs h2

/-- `p ~ q`; the tokens of the result are given apart (`hk`), so that in a chain of steps every intermediate text is
inferred -/
theorem Ev.andThen {a : Bool} {p q : Peg} {s r1 r1' r2 : Str} {k1 k2 k : List PTree}
    (h1 : Ev G a p s (some (r1, k1))) (hs : Skip G a r1 r1') (h2 : Ev G a q r1' (some (r2, k2)))
    (hk : k1 ++ k2 = k) : Ev G a (.seq p q) s (some (r2, k)) :=
  hk ▸ ev_seq_ok h1 hs h2

theorem ev_seq_no {a : Bool} {p q : Peg} {s r1 r1' : Str} {k1 : List PTree}
    (h1 : Ev G a p s (some (r1, k1))) (hs : Skip G a r1 r1') (h2 : Ev G a q r1' none) :
    Ev G a (.seq p q) s none := by
  simpa using Ev.seq a p q s r1 r1' k1 _ h1 hs h2

/-- the leftmost element of nested sequences -/
def Peg.first : Peg → Peg
  | .seq p _ => p.first
  | p => p

theorem ev_first_fail {a : Bool} {s : Str} : ∀ {p : Peg}, Ev G a p.first s none → Ev G a p s none
  | .seq p q, h => Ev.seq_fail a p q s (ev_first_fail (p := p) h)
  | .lit _, h | .ref _, h | .cls _, h | .alt _ _, h | .star _, h | .plus _, h | .opt _, h | .neg _, h => h

/-- sequences inside atomic rules: no implicit whitespace -/
theorem ev_seqA_ok {p q : Peg} {s r1 r2 : Str} {k1 k2 : List PTree}
    (h1 : Ev G true p s (some (r1, k1))) (h2 : Ev G true q r1 (some (r2, k2))) :
    Ev G true (.seq p q) s (some (r2, k1 ++ k2)) := ev_seq_ok h1 (Skip.atomic r1) h2

theorem ev_seqA_no {p q : Peg} {s r1 : Str} {k1 : List PTree}
    (h1 : Ev G true p s (some (r1, k1))) (h2 : Ev G true q r1 none) :
    Ev G true (.seq p q) s none := ev_seq_no h1 (Skip.atomic r1) h2

theorem ev_ref_ok {a : Bool} {n : String} {r : Rule} {s rest : Str} {kids : List PTree}
    (hr : G.rule? n = some r) (h : Ev G (a || r.mod == .atomic) r.body s (some (rest, kids))) :
    Ev G a (.ref n) s (wrapRef a r n s (some (rest, kids))) := Ev.ref a n r s _ hr h

theorem ev_ref_no {a : Bool} {n : String} {r : Rule} {s : Str}
    (hr : G.rule? n = some r) (h : Ev G (a || r.mod == .atomic) r.body s none) :
    Ev G a (.ref n) s none := by
  simpa [wrapRef] using Ev.ref a n r s _ hr h

theorem take_text (X rest : Str) : (X ++ rest).take ((X ++ rest).length - rest.length) = X := by
  simp

/- the token a rule reference contributes (pest): a normal rule one node with the tokens of its body as kids, an atomic
   rule one leaf, any rule matched inside an atomic rule none -/
theorem ev_ref_tok {n : String} {r : Rule} {X rest : Str} {kids : List PTree}
    (hr : G.rule? n = some r) (hm : r.mod = .normal) (h : Ev G false r.body (X ++ rest) (some (rest, kids))) :
    Ev G false (.ref n) (X ++ rest) (some (rest, [.node n X kids])) := by
  have e : (Modifier.normal == Modifier.atomic) = false := by decide
  have := Ev.ref false n r (X ++ rest) _ hr (by simpa [hm, e] using h)
  have e2 : (Modifier.normal == Modifier.silent) = false := by decide
  simpa [wrapRef, hm, take_text, e, e2] using this

theorem ev_ref_all {n : String} {r : Rule} {X : Str} {kids : List PTree}
    (hr : G.rule? n = some r) (hm : r.mod = .normal) (h : Ev G false r.body X (some ([], kids))) :
    Ev G false (.ref n) X (some ([], [.node n X kids])) := by
  have := ev_ref_tok (X := X) (rest := []) hr hm (by rwa [List.append_nil])
  rwa [List.append_nil] at this

theorem ev_ref_tokA {n : String} {r : Rule} {X rest : Str} {kids : List PTree}
    (hr : G.rule? n = some r) (hm : r.mod = .atomic) (h : Ev G true r.body (X ++ rest) (some (rest, kids))) :
    Ev G false (.ref n) (X ++ rest) (some (rest, [.node n X []])) := by
  have e : (Modifier.atomic == Modifier.atomic) = true := by decide
  have := Ev.ref false n r (X ++ rest) _ hr (by simpa [hm, e] using h)
  have e2 : (Modifier.atomic == Modifier.silent) = false := by decide
  simpa [wrapRef, hm, take_text, e, e2] using this

theorem ev_ref_inA {n : String} {r : Rule} {s : Str} {res : Option (Str × List PTree)}
    (hr : G.rule? n = some r) (hm : r.mod ≠ .silent) (h : Ev G true r.body s res) :
    Ev G true (.ref n) s (res.map (fun x => (x.1, []))) := by
  have := Ev.ref true n r s _ hr (by simpa using h)
  cases res with
  | none => simpa [wrapRef] using this
  | some x =>
    obtain ⟨rest, kids⟩ := x
    simpa [wrapRef, beq_eq_false_iff_ne.mpr hm] using this

theorem ev_alt_l {a : Bool} {p q : Peg} {s : Str} {r : Str × List PTree} (h : Ev G a p s (some r)) :
    Ev G a (.alt p q) s (some r) := Ev.alt_l a p q s r h

theorem ev_alt_r {a : Bool} {p q : Peg} {s : Str} {res : Option (Str × List PTree)} (h1 : Ev G a p s none)
    (h2 : Ev G a q s res) : Ev G a (.alt p q) s res := Ev.alt_r a p q s res h1 h2

/-- ordered choice with both branches evaluated -/
theorem ev_alt {a : Bool} {p q : Peg} {s : Str} {r1 r2 : Option (Str × List PTree)}
    (h1 : Ev G a p s r1) (h2 : Ev G a q s r2) : Ev G a (.alt p q) s (r1.orElse fun _ => r2) := by
  cases r1 with
  | none => simpa using Ev.alt_r a p q s _ h1 h2
  | some x => simpa using Ev.alt_l a p q s x h1

/-- a loop that takes the characters of `xs` one at a time and stops at `s` -/
theorem many_each {a : Bool} {p : Peg} (xs : Str) {s s' : Str} (acc : List PTree)
    (hstep : ∀ c t, c :: t <:+ xs → Skip G a (c :: t ++ s) (c :: t ++ s) ∧ Ev G a p (c :: t ++ s) (some (t ++ s, [])))
    (hsk : Skip G a s s') (hstop : Ev G a p s' none) : Many G a p (xs ++ s) acc (s, acc) := by
  induction xs with
  | nil => exact Many.stop_fail a p s s' acc hsk hstop
  | cons c t ih =>
    obtain ⟨h1, h2⟩ := hstep c t (List.suffix_refl _)
    refine Many.step a p _ _ (t ++ s) [] acc _ h1 h2 (Nat.lt_succ_self _) ?_
    rw [List.append_nil]
    exact ih fun c' t' h => hstep c' t' (h.trans (List.suffix_cons c t))

/-! ### totality -/

/-- `p` has a result on every input, and what a match leaves is a suffix of the input -/
def Total (G : Grammar) (a : Bool) (p : Peg) : Prop :=
  ∀ s, ∃ res, Ev G a p s res ∧ ∀ r k, res = some (r, k) → r <:+ s

def SkipTotal (G : Grammar) (a : Bool) : Prop := ∀ s, ∃ s', Skip G a s s' ∧ s' <:+ s

theorem skipTotal_atomic : SkipTotal G true := fun s => ⟨s, Skip.atomic s, List.suffix_refl s⟩

theorem total_lit (a : Bool) (k : Str) : Total G a (.lit k) := fun s =>
  ⟨_, Ev.lit a k s, fun r _ e => by
    obtain ⟨r', h, e'⟩ := Option.map_eq_some_iff.mp e
    cases e'
    exact ⟨k, (strip_some h).symm⟩⟩

theorem total_cls (a : Bool) (n : String) : Total G a (.cls n) := fun s => by
  cases hc : G.cls? n with
  | none => exact ⟨none, Ev.cls_unknown a n s hc, nofun⟩
  | some tbl =>
    cases s with
    | nil => exact ⟨none, Ev.cls_eof a n, nofun⟩
    | cons c cs =>
      refine ⟨_, ev_cls_cons a n tbl hc c cs, fun r k e => ?_⟩
      split at e
      · cases e; exact List.suffix_cons c cs
      · cases e

theorem wrapRef_fst (a : Bool) (r : Rule) (n : String) (s : Str) (res : Option (Str × List PTree)) :
    (wrapRef a r n s res).map Prod.fst = res.map Prod.fst := by
  match res with
  | none => rfl
  | some (rest, kids) => simp only [wrapRef, apply_ite (Option.map Prod.fst), Option.map_some, ite_self]

theorem total_ref {a : Bool} {n : String} {r : Rule} (hr : G.rule? n = some r)
    (h : Total G (a || r.mod == .atomic) r.body) : Total G a (.ref n) := fun s => by
  obtain ⟨res, hev, hsuf⟩ := h s
  refine ⟨_, Ev.ref a n r s res hr hev, fun r' k e => ?_⟩
  have e' := (wrapRef_fst a r n s res).symm.trans (congrArg (Option.map Prod.fst) e)
  match res, hsuf, e' with
  | some (_, k0), hsuf, e' => cases e'; exact hsuf _ k0 rfl

theorem total_seq {a : Bool} {p q : Peg} (hp : Total G a p) (hs : SkipTotal G a) (hq : Total G a q) :
    Total G a (.seq p q) := fun s => by
  obtain ⟨res1, h1, s1⟩ := hp s
  match res1, h1, s1 with
  | none, h1, _ => exact ⟨none, Ev.seq_fail a p q s h1, nofun⟩
  | some (r1, k1), h1, s1 =>
    obtain ⟨r1', hsk, s2⟩ := hs r1
    obtain ⟨res2, h2, s3⟩ := hq r1'
    refine ⟨_, Ev.seq a p q s r1 r1' k1 res2 h1 hsk h2, fun r k e => ?_⟩
    match res2, s3, e with
    | some (r2, k2), s3, e =>
      cases e
      exact (s3 r2 k2 rfl).trans (s2.trans (s1 r1 k1 rfl))

theorem total_alt {a : Bool} {p q : Peg} (hp : Total G a p) (hq : Total G a q) : Total G a (.alt p q) := fun s => by
  obtain ⟨res1, h1, s1⟩ := hp s
  match res1, h1, s1 with
  | some x, h1, s1 => exact ⟨some x, Ev.alt_l a p q s x h1, s1⟩
  | none, h1, _ =>
    obtain ⟨res2, h2, s2⟩ := hq s
    exact ⟨res2, Ev.alt_r a p q s res2 h1 h2, s2⟩

/-- the loop ends because every further round starts on a strictly shorter input -/
theorem total_many {a : Bool} {p : Peg} (hp : Total G a p) (hs : SkipTotal G a) :
    ∀ (n : Nat) (s : Str) (acc : List PTree), s.length ≤ n → ∃ out, Many G a p s acc out ∧ out.1 <:+ s
  | n, s, acc, hn => by
    obtain ⟨s', hsk, hs'⟩ := hs s
    obtain ⟨res, hev, hsuf⟩ := hp s'
    match res, hev, hsuf with
    | none, hev, _ => exact ⟨(s, acc), Many.stop_fail a p s s' acc hsk hev, List.suffix_refl s⟩
    | some (r, k), hev, hsuf =>
      by_cases hl : r.length < s.length
      · match n, hn with
        | 0, hn => exact absurd hl (by omega)
        | n + 1, hn =>
          obtain ⟨out, hm, ho⟩ := total_many hp hs n r (acc ++ k) (by omega)
          exact ⟨out, Many.step a p s s' r k acc out hsk hev hl hm, ho.trans ((hsuf r k rfl).trans hs')⟩
      · exact ⟨(s, acc), Many.stop_stuck a p s s' r k acc hsk hev hl, List.suffix_refl s⟩

theorem total_star {a : Bool} {p : Peg} (hp : Total G a p) (hs : SkipTotal G a) : Total G a (.star p) := fun s => by
  obtain ⟨out, hm, ho⟩ := total_many hp hs s.length s [] (Nat.le_refl _)
  exact ⟨some out, Ev.star a p s out hm, fun r k e => by cases e; exact ho⟩

theorem total_plus {a : Bool} {p : Peg} (hp : Total G a p) (hs : SkipTotal G a) : Total G a (.plus p) := fun s => by
  obtain ⟨res1, h1, s1⟩ := hp s
  match res1, h1, s1 with
  | none, h1, _ => exact ⟨none, Ev.plus_fail a p s h1, nofun⟩
  | some (r1, k1), h1, s1 =>
    obtain ⟨out, hm, ho⟩ := total_many hp hs r1.length r1 k1 (Nat.le_refl _)
    exact ⟨some out, Ev.plus a p s r1 k1 out h1 hm, fun r k e => by cases e; exact ho.trans (s1 r1 k1 rfl)⟩

end generic

/-! ### implicit whitespace -/

theorem rule_ws : RG.rule? "WHITESPACE" = some { name := "WHITESPACE", mod := .silent, body := .cls "WHITE_SPACE" } := by
  decide +kernel

theorem skip_ws : ∀ (s : Str), Skip RG false s (s.dropWhile wsB)
  | [] => Skip.stop [] _ rule_ws (Ev.cls_eof true _)
  | c :: cs => by
    have h := ev_cls_cons (G := RG) true "WHITE_SPACE" _ cls_white c cs
    by_cases hc : wsB c = true
    · rw [List.dropWhile_cons_of_pos hc]
      rw [show inRanges Gen.clsWhite c = true from hc, if_pos rfl] at h
      exact Skip.step (c :: cs) cs _ _ [] rule_ws h (Nat.lt_succ_self _) (skip_ws cs)
    · rw [List.dropWhile_cons_of_neg hc]
      rw [show inRanges Gen.clsWhite c = false from Bool.eq_false_iff.mpr hc, if_neg (by decide)] at h
      exact Skip.stop (c :: cs) _ rule_ws h

theorem skip_total (s : Str) : ∃ s', Skip RG false s s' ∧ s' <:+ s := ⟨_, skip_ws s, List.dropWhile_suffix _⟩

theorem skipTotal_RG : ∀ a, SkipTotal RG a
  | true => skipTotal_atomic
  | false => skip_total

/-- nothing to skip: end of input or a non-blank character -/
def NoWs (s : Str) : Prop := ∀ c ∈ s.head?, wsB c = false

theorem noWs_nil : NoWs [] := nofun
theorem noWs_cons {c : Char} {cs : Str} (h : wsB c = false) : NoWs (c :: cs) := by
  intro d hd; cases hd; exact h

theorem NoWs.dropWhile {s : Str} (h : NoWs s) : s.dropWhile wsB = s := by
  cases s with
  | nil => rfl
  | cons c cs => exact List.dropWhile_cons_of_neg (by simp [h c rfl])

theorem skip_none (a : Bool) {s : Str} (h : NoWs s) : Skip RG a s s := by
  cases a with
  | true => exact Skip.atomic s
  | false => have := skip_ws s; rwa [h.dropWhile] at this

theorem ev_between {o c : Char} {p : Peg} {s rest : Str} {k : List PTree} (hs : NoWs s) (hc : wsB c = false)
    (hp : Ev RG false p s (some (c :: rest, k))) :
    Ev RG false (.seq (.seq (.lit [o]) p) (.lit [c])) (o :: s) (some (rest, k)) :=
  ((ev_lit1_hit false o s).andThen (skip_none false hs) hp rfl).andThen (skip_none false (noWs_cons hc))
    (ev_lit1_hit false c rest) (by simp)

theorem ws_space : wsB ' ' = true := by decide +kernel

theorem skip_space {s : Str} (h : NoWs s) : Skip RG false (' ' :: s) s := by
  have := skip_ws (' ' :: s)
  rwa [List.dropWhile_cons_of_pos ws_space, h.dropWhile] at this

end Narsese.Peg
