/-
  `sentence`, `task`, `narsese` — the whole formatted value is derived from the start rule,
  as the kind it is; the earlier alternatives of `narsese` fail on it.
-/
import Proofs.Peg.Items
import Proofs.LexTotal
set_option autoImplicit false

namespace Narsese.Peg
open LFormat

/-! ### text and tree of a sentence -/

/-- blank-separated optional item -/
def optSp (x : Str) : Str := if x.isEmpty then [] else ' ' :: x

/-- the truth as printed (nothing for an empty truth) -/
def ttOf (tr : List Str) : Str := if tr.isEmpty then [] else truthTxt tr

def stampToks (st : Str) : List PTree := if st.isEmpty then [] else [.node "stamp" st []]
def truthToks (tr : List Str) : List PTree := if tr.isEmpty then [] else [.node "truth" (truthTxt tr) (tr.map tbtTok)]

def sentTree (L : LFormat) (s : LSentence) : PTree :=
  .node "sentence" (L.fmtSentence s)
    (termTree L s.term :: .node "punctuation" s.punct [] :: (stampToks s.stamp ++ truthToks s.truth))

def taskTree (L : LFormat) (k : LTask) : PTree :=
  .node "task" (L.fmtTask k) [budgetTree k.budget, sentTree L k.sentence]

theorem joinLest_sp3 (a b c : Str) : joinLest [' '] [a, b, c] = a ++ (optSp b ++ optSp c) :=
  joinLest_eq [' '] a b c

section
variable {L : LFormat} (hL : GLayout L)
include hL

theorem fmtTruth_eq (tr : List Str) : L.fmtTruth tr = ttOf tr := by
  simp only [fmtTruth, ttOf, truthTxt, hL.truthL, hL.truthR, hL.truthSep, semi]
  split <;> simp

theorem gtxt_sentence (s : LSentence) :
    L.fmtSentence s = L.fmtTerm s.term ++ (s.punct ++ (optSp s.stamp ++ optSp (ttOf s.truth))) := by
  simp only [fmtSentence, hL.spaceItems, joinLest_sp3, fmtTruth_eq hL]

theorem fmtBudget_eq (b : List Str) : L.fmtBudget b = budgetTxt b := by
  simp only [fmtBudget, budgetTxt, hL.budgetL, hL.budgetR, hL.budgetSep, semi, List.cons_append, List.nil_append]

end

/-! ### the optional items -/

theorem tt_head (tr : List Str) : ∀ c ∈ (ttOf tr).head?, c = '%' := by
  simp only [ttOf]
  split
  · simp
  · simp [truthTxt]

theorem noWs_tt (tr : List Str) : NoWs (ttOf tr) := by
  intro c hc
  rw [tt_head tr c hc]
  decide +kernel

theorem skip_optSp {x : Str} (h : NoWs x) : Skip RG false (optSp x) x := by
  simp only [optSp]
  split
  · rename_i he
    have : x = [] := by simpa using he
    subst this; exact skip_none false noWs_nil
  · exact skip_space h

theorem gStamp_cases {st : Str} (h : gStampB st = true) :
    st = [] ∨ ∃ mid, st = stampTxt mid ∧ mid ≠ [] ∧ mid.all stampCh = true := by
  simp only [gStampB, Bool.or_eq_true, Bool.and_eq_true, beq_iff_eq, Bool.not_eq_true'] at h
  rcases h with h | h
  · exact Or.inl (by simpa using h)
  · exact Or.inr ⟨stampMidOf st, h.1.1, by simpa using h.1.2, h.2⟩

/-- `truth?` at the end of the input -/
theorem ev_opt_truth (tr : List Str) (htr : tr.all gNumB = true) :
    Ev RG false (.opt (.ref "truth")) (ttOf tr) (some ([], truthToks tr)) := by
  cases tr with
  | nil => simpa [ttOf, truthToks] using Ev.opt_none false _ _ (truth_fail [] (by simp))
  | cons x xs =>
    have := ev_truth x xs [] (by simpa [List.all_eq_true] using htr)
    simpa [ttOf, truthToks] using Ev.opt_some false _ _ _ this

/-- what follows the punctuation, `stamp? ~ truth?`, behind any `X` -/
theorem ev_stamp_truth {X : Peg} {s st : Str} {tr : List Str} {k : List PTree} (hst : gStampB st = true)
    (htr : tr.all gNumB = true) (hX : Ev RG false X s (some (optSp st ++ optSp (ttOf tr), k))) :
    Ev RG false (.seq (.seq X (.opt (.ref "stamp"))) (.opt (.ref "truth"))) s
      (some ([], k ++ (stampToks st ++ truthToks tr))) := by
  rcases gStamp_cases hst with rfl | ⟨mid, rfl, hne, hm⟩
  · have hf : Ev RG false (.ref "stamp") (ttOf tr) none := stamp_fail _ fun c hc => by rw [tt_head tr c hc]; decide
    exact (hX.andThen (skip_optSp (noWs_tt tr)) (Ev.opt_none false _ _ hf) rfl).andThen
      (skip_none false (noWs_tt tr)) (ev_opt_truth tr htr) (by simp [stampToks])
  · have hne' : (stampTxt mid).isEmpty = false := by simp [stampTxt]
    have hsk : Skip RG false (optSp (stampTxt mid) ++ optSp (ttOf tr)) (stampTxt mid ++ optSp (ttOf tr)) := by
      simp only [optSp, hne', Bool.false_eq_true, if_false, List.cons_append]
      exact skip_space (noWs_cons (c := ':') ws_colon)
    exact (hX.andThen hsk (Ev.opt_some false _ _ _ (ev_stamp mid _ hne hm)) rfl).andThen
      (skip_optSp (noWs_tt tr)) (ev_opt_truth tr htr) (by simp [stampToks, hne'])

/-! ### `sentence` -/

def sentenceBody : Peg :=
  .seq (.seq (.seq (.ref "term") (.ref "punctuation")) (.opt (.ref "stamp"))) (.opt (.ref "truth"))

theorem rule_sentence : RG.rule? "sentence" = some { name := "sentence", mod := .normal, body := sentenceBody } := by
  decide +kernel

theorem gPunct_cases {p : Str} (h : gPunctB p = true) :
    ∃ c, p = [c] ∧ psB c = true ∧ acB c = false ∧ c ≠ '=' := by
  match p, h with
  | [c], h =>
    simp only [gPunctB, Bool.and_eq_true, Bool.not_eq_true', beq_eq_false_iff_ne] at h
    exact ⟨c, rfl, h.1.1, h.1.2, h.2⟩

def taskBody : Peg := .seq (.ref "budget") (.ref "sentence")

theorem rule_task : RG.rule? "task" = some { name := "task", mod := .normal, body := taskBody } := by decide +kernel

section
variable {L : LFormat} (hL : GLayout L)
include hL

theorem ev_sentence (s : LSentence) (h : gSentOKB s = true) :
    Ev RG false (.ref "sentence") (L.fmtSentence s) (some ([], [sentTree L s])) := by
  simp only [gSentOKB, Bool.and_eq_true] at h
  obtain ⟨⟨⟨ht, hp⟩, hst⟩, htr⟩ := h
  obtain ⟨pc, epc, hps, hac, hne⟩ := gPunct_cases hp
  have hws : wsB pc = false := ps_not_ws hps
  have hsp : pc ≠ ' ' := by intro e; subst e; rw [ws_space] at hws; exact absurd hws (by decide)
  have hstop : stopGB ([pc] ++ (optSp s.stamp ++ optSp (ttOf s.truth))) = true :=
    stopG_char _ (by simp [hsp, hac, hne, hws])
  refine ev_ref_all rule_sentence rfl ?_
  rw [gtxt_sentence hL, epc]
  exact ev_stamp_truth hst htr
    ((ev_term hL s.term ht _ hstop).andThen (skip_none false (noWs_cons hws)) (ev_punct pc _ hps) rfl)

theorem ev_term_all (t : LTerm) (h : gTermOKB t = true) :
    Ev RG false (.ref "term") (L.fmtTerm t) (some ([], [termTree L t])) := by
  have := ev_term hL t h [] rfl
  rwa [List.append_nil] at this

/-- `sentence` fails on the text of a bare term (no punctuation follows) -/
theorem sentence_fail_term (t : LTerm) (h : gTermOKB t = true) :
    Ev RG false (.ref "sentence") (L.fmtTerm t) none :=
  ev_ref_no rule_sentence (Ev.seq_fail _ _ _ _ (Ev.seq_fail _ _ _ _
    (ev_seq_no (ev_term_all hL t h) (skip_none false noWs_nil) punct_nil)))

/-! ### `task` -/

theorem sentence_head (s : LSentence) (h : gSentOKB s = true) : ∃ c cs, L.fmtSentence s = c :: cs ∧ wsB c = false := by
  simp only [gSentOKB, Bool.and_eq_true] at h
  obtain ⟨c, cs, e, hw⟩ := term_head hL s.term h.1.1.1
  exact ⟨c, cs ++ _, by rw [gtxt_sentence hL, e]; rfl, hw⟩

theorem gtxt_task (k : LTask) (h : gSentOKB k.sentence = true) :
    L.fmtTask k = budgetTxt k.budget ++ ' ' :: L.fmtSentence k.sentence := by
  obtain ⟨c, cs, e, _⟩ := sentence_head hL k.sentence h
  simp only [fmtTask, fmtBudget_eq hL, hL.spaceItems, e, List.isEmpty_cons, Bool.false_eq_true, if_false,
    List.append_assoc, List.cons_append, List.nil_append]

theorem ev_task (k : LTask) (h : gTaskOKB k = true) :
    Ev RG false (.ref "task") (L.fmtTask k) (some ([], [taskTree L k])) := by
  simp only [gTaskOKB, Bool.and_eq_true] at h
  obtain ⟨c, cs, e, hw⟩ := sentence_head hL k.sentence h.2
  refine ev_ref_all rule_task rfl ?_
  rw [gtxt_task hL k h.2]
  exact ev_seq_ok (ev_budget k.budget _ (by simpa [List.all_eq_true] using h.1))
    (skip_space (by rw [e]; exact noWs_cons hw)) (ev_sentence hL k.sentence h.2)

end

/-! ### `task` fails on what is not a task -/

theorem task_fail_head (s : Str) (h : ∀ c ∈ s.head?, '$' ≠ c) : Ev RG false (.ref "task") s none :=
  ev_ref_no rule_task (ev_first_fail (ev_ref_no rule_budget (ev_first_fail (ev_lit1_fail false '$' s h))))

/- for `task_fail_dollar`: `budget_content` has a result on every input -/
theorem total_tbt : Total RG false (.ref "truth_budget_term") :=
  total_ref rule_tbt (total_plus (total_alt (total_cls _ _) (total_lit _ _)) skipTotal_atomic)

theorem nums_total (s : Str) : ∃ res, Ev RG false numsBody s res ∧ ∀ r k, res = some (r, k) → r <:+ s :=
  total_seq
    (total_seq total_tbt (skipTotal_RG _)
      (total_star (total_seq (total_lit _ _) (skipTotal_RG _) total_tbt) (skipTotal_RG _)))
    (skipTotal_RG _) (total_star (total_lit _ _) (skipTotal_RG _)) s

theorem bc_total (s : Str) : ∃ r k, Ev RG false (.ref "budget_content") s (some (r, k)) ∧ r <:+ s := by
  obtain ⟨res, hev, hres⟩ := nums_total s
  match res, hev, hres with
  | none, hev, _ =>
    have hb : Ev RG false bcBody ([] ++ s) (some (s, [])) := ev_alt_r hev (ev_lit_empty false s)
    exact ⟨s, _, ev_ref_tok rule_bc rfl hb, List.suffix_refl _⟩
  | some (r, k), hev, hres =>
    obtain ⟨X, rfl⟩ := hres r k rfl
    exact ⟨r, _, ev_ref_tok rule_bc rfl (ev_alt_l hev), ⟨X, rfl⟩⟩

/-- `budget` also fails on `$…` without a second `$`: whatever `budget_content` takes of the input — it has a result on
every input (`bc_total`) — the closing `$` is not found in what is left -/
theorem task_fail_dollar (w : Str) (hw : '$' ∉ w) : Ev RG false (.ref "task") ('$' :: w) none := by
  obtain ⟨w1, hsk1, hsuf1⟩ := skip_total w
  obtain ⟨r, k, hbc, hr⟩ := bc_total w1
  obtain ⟨r', hsk2, hsuf2⟩ := skip_total r
  have hf : Ev RG false (.lit ['$']) r' none := by
    refine ev_lit1_fail false '$' r' ?_
    intro c hc e
    subst e
    exact hw ((hsuf2.trans (hr.trans hsuf1)).subset (List.mem_of_mem_head? hc))
  have h12 := ev_seq_ok (ev_lit1_hit (G := RG) false '$' w) hsk1 hbc
  have hbud : Ev RG false budgetBody ('$' :: w) none := ev_seq_no h12 hsk2 hf
  exact ev_ref_no rule_task (ev_first_fail (ev_ref_no rule_budget hbud))

theorem task_fail (txt : Str) (h : dollarOKB txt = true) : Ev RG false (.ref "task") txt none := by
  cases txt with
  | nil => exact task_fail_head [] (by simp)
  | cons c w =>
    simp only [dollarOKB, Bool.or_eq_true, Bool.not_eq_true', beq_eq_false_iff_ne] at h
    by_cases hc : c = '$'
    · subst hc
      rcases h with h | h
      · exact absurd rfl h
      · exact task_fail_dollar w (by simpa using h)
    · exact task_fail_head _ (by simpa using fun e => hc e.symm)

/-! ### `narsese` -/

def narseseBody : Peg := .alt (.alt (.ref "task") (.ref "sentence")) (.ref "term")

theorem rule_narsese : RG.rule? "narsese" = some { name := "narsese", mod := .normal, body := narseseBody } := by
  decide +kernel

def valTree (L : LFormat) : LNarsese → PTree
  | .term t => .node "narsese" (L.fmtTerm t) [termTree L t]
  | .sentence s => .node "narsese" (L.fmtSentence s) [sentTree L s]
  | .task k => .node "narsese" (L.fmtTask k) [taskTree L k]

section
variable {L : LFormat} (hL : GLayout L)
include hL

theorem derives_value (v : LNarsese) (h : gValOKB L v = true) :
    DerivesAll RG "narsese" (L.fmtNarsese v) (valTree L v) := by
  cases v with
  | term t =>
    simp only [gValOKB, Bool.and_eq_true] at h
    exact ev_ref_all rule_narsese rfl
      (ev_alt_r (ev_alt_r (task_fail _ h.2) (sentence_fail_term hL t h.1)) (ev_term_all hL t h.1))
  | sentence s =>
    simp only [gValOKB, Bool.and_eq_true] at h
    exact ev_ref_all rule_narsese rfl
      (ev_alt_l (ev_alt_r (task_fail _ h.2) (ev_sentence hL s h.1)))
  | task k => exact ev_ref_all rule_narsese rfl (ev_alt_l (ev_alt_l (ev_task hL k h)))

end

end Narsese.Peg
