/-
  The character classes of the README grammar (tables regenerated from the Unicode data the generator reads) and
  their disjointness, decided on the whole tables.
-/
import NarseseModel.PegWF
set_option autoImplicit false

namespace Narsese.Peg

/- the four large tables by `rfl`: the lookup unfolds to the table's name, whereas `decide` would compare the tables
   entry by entry -/
theorem cls_punct : RG.cls? "PUNCTUATION" = some Gen.clsPunct := rfl
theorem cls_symbol : RG.cls? "SYMBOL" = some Gen.clsSymbol := rfl
theorem cls_letter : RG.cls? "LETTER" = some Gen.clsLetter := rfl
theorem cls_number : RG.cls? "NUMBER" = some Gen.clsNumber := rfl
theorem cls_white : RG.cls? "WHITE_SPACE" = some Gen.clsWhite := by decide +kernel
theorem cls_digit : RG.cls? "ASCII_DIGIT" = some [(48, 57)] := by decide +kernel
theorem cls_any : RG.cls? "ANY" = some [(0, 1114111)] := by decide +kernel

/-- two range tables share no character: one walk along both (the tables are sorted, and `inRanges` gives up at
the first range that begins beyond the character, so no order hypothesis is needed for soundness) -/
def disjointAux : Nat → List (Nat × Nat) → List (Nat × Nat) → Bool
  | _, [], _ => true
  | _, _, [] => true
  | 0, _, _ => false
  | n + 1, x :: xs, y :: ys =>
    if x.2 < y.1 then disjointAux n xs (y :: ys)
    else if y.2 < x.1 then disjointAux n (x :: xs) ys
    else false

def disjointB (t1 t2 : List (Nat × Nat)) : Bool := disjointAux (t1.length + t2.length) t1 t2

theorem disjointAux_sound {c : Char} : ∀ (n : Nat) (t1 t2 : List (Nat × Nat)), disjointAux n t1 t2 = true →
    inRanges t1 c = true → inRanges t2 c = false
  | _, [], _, _, h1 => by simp [inRanges] at h1
  | _, _ :: _, [], _, _ => rfl
  | 0, _ :: _, _ :: _, hd, _ => by simp [disjointAux] at hd
  | n + 1, x :: xs, y :: ys, hd, h1 => by
    simp only [disjointAux] at hd
    simp only [inRanges] at h1 ⊢
    split at hd
    · -- `x` lies wholly before `y`: a character in `x` is below `y`, one beyond `x` is in `xs`
      split at h1
      · simp at h1
      · split at h1
        · rw [if_pos (by omega)]
        · exact disjointAux_sound n xs (y :: ys) hd h1
    · split at hd
      · -- `y` lies wholly before `x`: a character in `y` would be below `x`
        split
        · rfl
        · split
          · rw [if_pos (by omega)] at h1; simp at h1
          · exact disjointAux_sound n (x :: xs) ys hd (by simpa only [inRanges] using h1)
      · simp at hd

theorem disjoint_ranges {t1 t2 : List (Nat × Nat)} (hd : disjointB t1 t2 = true) {c : Char}
    (h1 : inRanges t1 c = true) : inRanges t2 c = false :=
  disjointAux_sound _ t1 t2 hd h1

theorem disjoint_ranges_or {a b x : List (Nat × Nat)} (ha : disjointB a x = true) (hb : disjointB b x = true) {c : Char}
    (h : (inRanges a c || inRanges b c) = true) : inRanges x c = false :=
  (Bool.or_eq_true_iff.mp h).elim (disjoint_ranges ha) (disjoint_ranges hb)

/-- letters and numbers are neither punctuation nor symbols -/
theorem ln_not_ps {c : Char} (h : lnB c = true) : psB c = false :=
  Bool.or_eq_false_iff.mpr
    ⟨disjoint_ranges_or (a := Gen.clsLetter) (b := Gen.clsNumber) (x := Gen.clsPunct) (by decide +kernel) (by decide +kernel) h,
     disjoint_ranges_or (a := Gen.clsLetter) (b := Gen.clsNumber) (x := Gen.clsSymbol) (by decide +kernel) (by decide +kernel) h⟩

theorem ln_not_ws {c : Char} : lnB c = true → wsB c = false :=
  disjoint_ranges_or (a := Gen.clsLetter) (b := Gen.clsNumber) (x := Gen.clsWhite) (by decide +kernel) (by decide +kernel)

theorem ps_not_ws {c : Char} : psB c = true → wsB c = false :=
  disjoint_ranges_or (a := Gen.clsPunct) (b := Gen.clsSymbol) (x := Gen.clsWhite) (by decide +kernel) (by decide +kernel)

theorem ac_not_ws {c : Char} (h : acB c = true) : wsB c = false := by
  simp only [acB, Bool.or_eq_true, beq_iff_eq] at h
  rcases h with (h | h) | h
  · exact ln_not_ws h
  · subst h; decide +kernel
  · subst h; decide +kernel

end Narsese.Peg
