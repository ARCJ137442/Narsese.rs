/-
  Cursor arithmetic for the enum parser model, and cursors placed inside the input (`mk`).
-/
import Proofs.Strings
import NarseseModel.EParser
set_option autoImplicit false

namespace Narsese
open EFormat

abbrev Cur.n (c : Cur) : Nat := c.rest.length

theorem startsWith_length (c : Cur) (k : Str) (h : c.startsWith k = true) : k.length ≤ c.n ∧ c.over = 0 := by
  simp only [Cur.startsWith, Bool.and_eq_true, beq_iff_eq] at h
  exact ⟨isPre_length k c.rest h.2, h.1⟩

theorem skipN_n (c : Cur) (k : Nat) : (c.skipN k).n = c.n - k := by
  unfold Cur.skipN Cur.n
  split
  · simp
  · simp; omega

theorem skipN_len (c : Cur) (k : Nat) : (c.skipN k).len = c.len := by
  unfold Cur.skipN; split <;> rfl

theorem cur_skip_nil (c : Cur) : c.skip [] = c := by
  simp [Cur.skip, Cur.skipN]

theorem skip_n (c : Cur) (k : Str) : (c.skip k).n = c.n - k.length := skipN_n c _
theorem skip_len (c : Cur) (k : Str) : (c.skip k).len = c.len := skipN_len c _

theorem skipSpAux_length (sp : Str) : ∀ (n : Nat) (s : Str), (skipSpAux sp n s).length ≤ s.length
  | 0, s => by simp [skipSpAux]
  | n + 1, s => by
    simp only [skipSpAux]
    cases h : strip sp s with
    | none => simp
    | some r =>
      have h1 := strip_length sp s r h
      have h2 := skipSpAux_length sp n r
      simp only; omega

theorem skipSpaces_n (F : EFormat) (c : Cur) : (F.skipSpaces c).n ≤ c.n := by
  unfold skipSpaces Cur.n
  split
  · exact skipSpAux_length _ _ _
  · exact Nat.le_refl _

theorem skipSpaces_len (F : EFormat) (c : Cur) : (F.skipSpaces c).len = c.len := by
  unfold skipSpaces; split <;> rfl

theorem skipAndSpaces_n (F : EFormat) (c : Cur) (k : Str) : (F.skipAndSpaces c k).n ≤ c.n - k.length := by
  rw [← skip_n]
  exact skipSpaces_n F (c.skip k)

theorem skipAfterSpaces_n (F : EFormat) (c : Cur) (k : Str) : (F.skipAfterSpaces c k).n ≤ c.n := by
  unfold skipAfterSpaces
  rw [skip_n]
  have := skipSpaces_n F c
  omega

theorem scanName_length (F : EFormat) : ∀ s : Str, (F.scanName s).1.length + (F.scanName s).2.length = s.length
  | [] => by simp [scanName]
  | c :: cs => by
    simp only [scanName]
    split
    · simp
    · split
      · have := scanName_length F cs; simp; omega
      · simp

theorem spanSigned_length : ∀ s : Str, (spanSigned s).1.length + (spanSigned s).2.length = s.length
  | [] => by simp [spanSigned]
  | c :: cs => by
    simp only [spanSigned]
    split
    · have := spanSigned_length cs; simp; omega
    · simp

def mk (len : Nat) (s : Str) : Cur := { rest := s, over := 0, len := len }

@[simp] theorem mk_startsWith (len : Nat) (s k : Str) : (mk len s).startsWith k = isPre k s := by
  simp [mk, Cur.startsWith]

theorem mk_skip (len : Nat) (k r : Str) : (mk len (k ++ r)).skip k = mk len r := by
  simp [mk, Cur.skip, Cur.skipN]

@[simp] theorem mk_canConsume (len : Nat) (s : Str) : (mk len s).canConsume = !s.isEmpty := rfl

@[simp] theorem mk_rest (len : Nat) (s : Str) : (mk len s).rest = s := rfl

theorem skipSpAux_noprefix (sp s : Str) (n : Nat) (h : isPre sp s = false) : skipSpAux sp n s = s := by
  cases n with
  | zero => rfl
  | succ n =>
    simp only [skipSpAux]
    cases hs : strip sp s with
    | none => rfl
    | some r => simp [isPre, hs] at h

theorem skipSpaces_noprefix (F : EFormat) (len : Nat) (s : Str) (h : isPre F.spaceParse s = false) :
    F.skipSpaces (mk len s) = mk len s := by
  simp [skipSpaces, mk, skipSpAux_noprefix _ _ _ h]

end Narsese
