/-
  The inline-macro path. The macros delete every whitespace character from the
  literal and then call the enum parser on the characters. Deleting all whitespace from ANY spelling gives
  the spelling with zero spaces everywhere, which `eparse_svalTxt` covers.
-/
import Proofs.Pipelines.Agree
set_option autoImplicit false

namespace Narsese
open EFormat

mutual
  theorem erase_zeroT (F : EFormat) : ∀ st : STerm, erase F (zeroT st) = erase F st
    | .atom t => rfl
    | .set ext a first items c => by simp only [zeroT, erase, erase_zeroT F first, erases_zeroItems F items]
    | .compound a j items c => by simp only [zeroT, erase, erases_zeroItems F items]
    | .stmt a s b j c p d => by simp only [zeroT, erase, erase_zeroT F s, erase_zeroT F p]
  theorem erases_zeroItems (F : EFormat) : ∀ items : SItems, erases F (zeroItems items) = erases F items
    | .nil => rfl
    | .cons b a t ts => by simp only [zeroItems, erases, erase_zeroT F t, erases_zeroItems F ts]
end

mutual
  theorem den_zeroT (F : EFormat) : ∀ st : STerm, den F (zeroT st) = den F st
    | .atom t => rfl
    | .set ext a first items c => by simp only [zeroT, den, den_zeroT F first, dens_zeroItems F items]
    | .compound a j items c => by simp only [zeroT, den, dens_zeroItems F items]
    | .stmt a s b j c p d => by simp only [zeroT, den, den_zeroT F s, den_zeroT F p]
  theorem dens_zeroItems (F : EFormat) : ∀ items : SItems, dens F (zeroItems items) = dens F items
    | .nil => rfl
    | .cons b a t ts => by simp only [zeroItems, dens, den_zeroT F t, dens_zeroItems F ts]
end

mutual
  theorem wfS_zeroT (F : EFormat) : ∀ st : STerm, wfS F (zeroT st) = wfS F st
    | .atom t => rfl
    | .set ext a first items c => by simp only [zeroT, wfS, wfS_zeroT F first, wfSs_zeroItems F items]
    | .compound a j items c => by
      simp only [zeroT, wfS, wfSs_zeroItems F items]
      cases items <;> rfl
    | .stmt a s b j c p d => by simp only [zeroT, wfS, wfS_zeroT F s, wfS_zeroT F p]
  theorem wfSs_zeroItems (F : EFormat) : ∀ items : SItems, wfSs F (zeroItems items) = wfSs F items
    | .nil => rfl
    | .cons b a t ts => by simp only [zeroItems, wfSs, wfS_zeroT F t, wfSs_zeroItems F ts]
end

mutual
  theorem wsFree_zeroT (F : EFormat) (L : LFormat) : ∀ st : STerm, wsFreeST F L (zeroT st) = wsFreeST F L st
    | .atom t => rfl
    | .set ext a first items c => by simp only [zeroT, wsFreeST, wsFree_zeroT F L first, wsFree_zeroItems F L items]
    | .compound a j items c => by simp only [zeroT, wsFreeST, wsFree_zeroItems F L items]
    | .stmt a s b j c p d => by simp only [zeroT, wsFreeST, wsFree_zeroT F L s, wsFree_zeroT F L p]
  theorem wsFree_zeroItems (F : EFormat) (L : LFormat) : ∀ items : SItems,
      wsFreeSs F L (zeroItems items) = wsFreeSs F L items
    | .nil => rfl
    | .cons b a t ts => by simp only [zeroItems, wsFreeSs, wsFree_zeroT F L t, wsFree_zeroItems F L ts]
end

theorem stxt_zeroT_head (F : EFormat) (st : STerm) (X : Str) : ∃ Y, stxt F (zeroT st) = stxt F (zeroT st) ∧ Y = X :=
  ⟨X, rfl, rfl⟩

theorem zeroNums_x (items : List SNum) : (zeroNums items).map (·.x) = items.map (·.x) := by
  simp [zeroNums, List.map_map, Function.comp_def]

theorem zeroNums_ok (items : List SNum) (h : ∀ s ∈ items, s.x.ok = true) : ∀ s ∈ zeroNums items, s.x.ok = true := by
  intro s hs
  simp only [zeroNums, List.mem_map] at hs
  obtain ⟨s', hs', rfl⟩ := hs
  exact h s' hs'

theorem wfSSent_zero (F : EFormat) (s : SSentence) (h : wfSSent F s = true) : wfSSent F (zeroSent s) = true := by
  simp only [wfSSent, Bool.and_eq_true] at h ⊢
  refine ⟨⟨by simpa only [zeroSent, wfS_zeroT] using h.1.1, ?_⟩, ?_⟩
  · cases hs : s.stamp with
    | none =>
      simp only [zeroSent, hs]
      rfl
    | some ss =>
      have := h.1.2
      rw [hs] at this
      simp only [wfSStamp, Bool.and_eq_true] at this
      simp only [zeroSent, hs, Option.map_some, wfSStamp, this.1, beq_self_eq_true, Bool.or_true, Bool.and_true]
  · cases ht : s.truth with
    | none =>
      simp only [zeroSent, ht]
      rfl
    | some ts =>
      have := h.2
      rw [ht] at this
      simp only [wfSTruth, List.all_eq_true] at this
      simp only [zeroSent, ht, Option.map_some, wfSTruth, List.all_eq_true]
      exact zeroNums_ok ts.items this

theorem wfV_zero (F : EFormat) (sv : SValue) (h : wfV F sv = true) : wfV F (zeroV sv) = true := by
  cases sv with
  | term lead st trail => simpa only [zeroV, wfV, wfS_zeroT] using h
  | sentence lead s => exact wfSSent_zero F s h
  | task lead k =>
    simp only [wfV, Bool.and_eq_true, List.all_eq_true] at h
    simp only [zeroV, wfV, Bool.and_eq_true, List.all_eq_true]
    exact ⟨wfSSent_zero F k.sent h.1, zeroNums_ok k.bitems h.2⟩

theorem denSent_zero (F : EFormat) (s : SSentence) : denSent F (zeroSent s) = denSent F s := by
  simp only [denSent, zeroSent, den_zeroT]
  cases s.stamp <;> cases s.truth <;> simp only [Option.map_none, Option.map_some, denStamp, denTruth, zeroNums_x]

theorem denVal_zero (F : EFormat) (sv : SValue) : denVal F (zeroV sv) = denVal F sv := by
  cases sv with
  | term lead st trail => simp only [zeroV, denVal, den_zeroT]
  | sentence lead s => simp only [zeroV, denVal, denSent_zero]
  | task lead k => simp only [zeroV, denVal, denSent_zero, zeroNums_x]

/-- **the inline-macro path**: delete every whitespace character of any spelling, then parse: the value -/
theorem macro_path {F : EFormat} {L : LFormat} (hV : SurfaceItemsOK F) (hX : LexSide F L) (sv : SValue)
    (hwf : wfV F sv = true) (hws : wsFreeSV F L sv = true) (htop0 : topVB F (zeroV sv) = true) (v : Narsese)
    (hden : denVal F sv = some v) : F.eparse (L.idealize (svalTxt F sv)) = .ok v := by
  rw [ideal_svalTxt_zero hX sv hwf hws]
  have hwf0 := wfV_zero F sv hwf
  exact eparse_svalTxt hV (zeroV sv) hwf0 (topV_of_B hV.items _ hwf0 htop0) v ((denVal_zero F sv).trans hden)

end Narsese
