/-
  The lexical tree of a surface tree (`erase`) and the erased value of a surface
  value (`eraseV`); folding them gives the denotation; the zero spelling (`zeroT`: the same tokens, no spaces) is
  the space-less lexical text of the erased tree, and `idealize_env` maps every spelling to its zero spelling.
-/
import Proofs.Pipelines.Fold
import Props.C03a
import Proofs.Spelling.Value
set_option autoImplicit false

namespace Narsese
open EFormat

mutual
  /-- forget the spacing: the lexical term a surface tree is a spelling of -/
  def erase (F : EFormat) : STerm → LTerm
    | .atom t => toLex F t
    | .set ext _ first items _ => .set (F.setL ext) (.cons (erase F first) (erases F items)) (F.setR ext)
    | .compound _ j items _ => .compound (F.connAt j).1 (erases F items)
    | .stmt _ s _ j _ p _ => .stmt (F.copAt j).1 (erase F s) (erase F p)
  def erases (F : EFormat) : SItems → LTerms
    | .nil => .nil
    | .cons _ _ t ts => .cons (erase F t) (erases F ts)
end

section
variable {F : EFormat} (hO : FoldOK F)
include hO

omit hO in
theorem setBrackets_setK (ext : Bool) : F.setBrackets (setK ext) = some (F.setL ext, F.setR ext) := by
  cases ext <;> rfl

mutual
  theorem fold_erase : ∀ (st : STerm), wfS F st = true → ∀ t, den F st = some t → F.foldTerm (erase F st) = .ok t
    | .atom t0, hwf, t, hd => by
      simp only [wfS, Bool.and_eq_true] at hwf
      cases Option.some.inj hd
      exact fold_toLex hO t0 hwf.2
    | .set ext a first items c, hwf, t, hd => by
      simp only [wfS, Bool.and_eq_true] at hwf
      obtain ⟨f, l, hdf, hdl, rfl⟩ := den_set hd
      rw [erase, foldTerm_set hO (setBrackets_setK ext) (ts := f :: l)
        (by simp only [foldTerms, fold_erase first hwf.1 f hdf, folds_erase items hwf.2 l hdl])]
    | .compound a j items c, hwf, t, hd => by
      simp only [wfS, Bool.and_eq_true, decide_eq_true_eq, Bool.not_eq_true', beq_eq_false_iff_ne, ne_eq] at hwf
      obtain ⟨⟨⟨hj, hop⟩, _⟩, hwi⟩ := hwf
      obtain ⟨l, hdl, hfin⟩ := den_compound hd
      rw [erase]
      exact foldTerm_compound hO (conn := (F.connAt j).1) (ck := (F.connAt j).2)
        (Props.C03.mem_foldConnTable_of_mem_connecters F _ (List.mem_of_getElem? (connAt_get hj)) hop) (folds_erase items hwi l hdl) hfin
    | .stmt a s b j c p d, hwf, t, hd => by
      simp only [wfS, Bool.and_eq_true, decide_eq_true_eq] at hwf
      obtain ⟨⟨hj, hws⟩, hwp⟩ := hwf
      obtain ⟨s', p', hds, hdp, rfl⟩ := den_stmt hd
      rw [erase, foldTerm_stmt hO (cop := (F.copAt j).1) (ck := (F.copAt j).2) (List.mem_of_getElem? (copAt_get hj))
        (fold_erase s hws s' hds) (fold_erase p hwp p' hdp)]
  theorem folds_erase : ∀ (items : SItems), wfSs F items = true → ∀ l, dens F items = some l →
      F.foldTerms (erases F items) = .ok l
    | .nil, _, l, hd => by
      cases Option.some.inj hd
      rfl
    | .cons b a t ts, hwf, l, hd => by
      simp only [wfSs, Bool.and_eq_true] at hwf
      obtain ⟨t', l', hdt, hdl, rfl⟩ := dens_cons hd
      simp only [erases, foldTerms, fold_erase t hwf.1 t' hdt, folds_erase ts hwf.2 l' hdl]
end

end

mutual
  /-- the same tokens with no spaces at all -/
  def zeroT : STerm → STerm
    | .atom t => .atom t
    | .set ext _ first items _ => .set ext 0 (zeroT first) (zeroItems items) 0
    | .compound _ j items _ => .compound 0 j (zeroItems items) 0
    | .stmt _ s _ j _ p _ => .stmt 0 (zeroT s) 0 j 0 (zeroT p) 0
  def zeroItems : SItems → SItems
    | .nil => .nil
    | .cons _ _ t ts => .cons 0 0 (zeroT t) (zeroItems ts)
end

theorem fmt_atomic {F : EFormat} (L : LFormat) {t : Term} (h : isAtomic t = true) :
    (noSp L).fmtTerm (toLex F t) = L.fmtTerm (toLex F t) := by
  cases t <;> first | rfl | cases h

section
variable {F : EFormat} {L : LFormat} (hA : Agree F L)
include hA

theorem ws_zero : ws F 0 = [] := rfl

mutual
  theorem stxt_zeroT : ∀ st : STerm, wfS F st = true → stxt F (zeroT st) = (noSp L).fmtTerm (erase F st)
    | .atom t, h => by
      simp only [wfS, Bool.and_eq_true] at h
      rw [zeroT, stxt, erase, fmt_atomic L h.1, fmt_toLex hA t]
    | .set ext a first items c, h => by
      simp only [wfS, Bool.and_eq_true] at h
      simp only [zeroT, stxt, erase, ws, List.nil_append, stxt_zeroT first h.1, itemsTxt_zero items h.2, txt_set,
        hA.separator]
    | .compound a j items c, h => by
      simp only [wfS, Bool.and_eq_true, decide_eq_true_eq, Bool.not_eq_true', beq_eq_false_iff_ne, ne_eq] at h
      cases items with
      | nil => simp at h
      | cons b' a' t' ts' =>
        have := itemsTxt_zero (.cons b' a' t' ts') h.2
        simp only [zeroT, stxt, erase, ws, List.nil_append, this, erases, txt_compound, hA.compL, hA.compR, hA.separator]
    | .stmt a s b j c p d, h => by
      simp only [wfS, Bool.and_eq_true, decide_eq_true_eq] at h
      simp only [zeroT, stxt, erase, ws, List.nil_append, stxt_zeroT s h.1.2, stxt_zeroT p h.2, txt_stmt, hA.stmtL,
        hA.stmtR]
  theorem itemsTxt_zero : ∀ items : SItems, wfSs F items = true →
      itemsTxt F (zeroItems items) = tailL F.separator (LFormat.fmtTerms (noSp L) (erases F items))
    | .nil, _ => rfl
    | .cons b a t ts, h => by
      simp only [wfSs, Bool.and_eq_true] at h
      simp only [zeroItems, itemsTxt, erases, LFormat.fmtTerms, tailL, ws, List.nil_append, stxt_zeroT t h.1,
        itemsTxt_zero ts h.2, List.append_assoc]
end

end

/-- the enum parse-space consists of characters the lexical parser deletes -/
def spaceWsB (F : EFormat) (L : LFormat) : Bool := F.spaceParse.all L.isWs

mutual
  /-- the atoms' texts contain no whitespace -/
  def wsFreeST (F : EFormat) (L : LFormat) : STerm → Bool
    | .atom t => wsFreeT L (toLex F t)
    | .set _ _ first items _ => wsFreeST F L first && wsFreeSs F L items
    | .compound _ j items _ => wsFree L (F.connAt j).1 && wsFreeSs F L items
    | .stmt _ s _ j _ p _ => wsFree L (F.copAt j).1 && wsFreeST F L s && wsFreeST F L p
  def wsFreeSs (F : EFormat) (L : LFormat) : SItems → Bool
    | .nil => true
    | .cons _ _ t ts => wsFreeST F L t && wsFreeSs F L ts
end

section
variable {F : EFormat} {L : LFormat} (hA : Agree F L) (hW : lWsOKB L = true) (hSp : spaceWsB F L = true)
  (hB : wsFree L F.extSetL = true ∧ wsFree L F.extSetR = true ∧ wsFree L F.intSetL = true ∧ wsFree L F.intSetR = true)
include hA hW hSp hB

omit hA hB in
theorem ideal_ws (n : Nat) : L.idealize (ws F n) = [] := by
  induction n with
  | zero => exact ideal_nil
  | succ n ih =>
    simp only [ws, ideal_append hW, ih, List.append_nil]
    apply ideal_space hW
    simpa [spaceWsB, List.all_eq_true] using hSp

omit hA hSp in
theorem ideal_setL (ext : Bool) : L.idealize (F.setL ext) = F.setL ext := by
  cases ext
  · exact ideal_free hW _ hB.2.2.1
  · exact ideal_free hW _ hB.1

omit hA hSp in
theorem ideal_setR (ext : Bool) : L.idealize (F.setR ext) = F.setR ext := by
  cases ext
  · exact ideal_free hW _ hB.2.2.2
  · exact ideal_free hW _ hB.2.1

omit hSp hB in
theorem ideal_kwE {k : Str} (hk : k ∈ [F.compL, F.compR, F.separator, F.stmtL, F.stmtR, F.truthL, F.truthR, F.truthSep,
    F.budgetL, F.budgetR, F.budgetSep]) : L.idealize k = k := by
  rw [← hA.compL, ← hA.compR, ← hA.separator, ← hA.stmtL, ← hA.stmtR, ← hA.truthL, ← hA.truthR, ← hA.truthSep,
    ← hA.budgetL, ← hA.budgetR, ← hA.budgetSep] at hk
  exact ideal_kw hW hk

mutual
  theorem ideal_stxt_zero : ∀ (st : STerm), wfS F st = true → wsFreeST F L st = true →
      L.idealize (stxt F st) = stxt F (zeroT st)
    | .atom t, hwf, h => by
      simp only [wfS, Bool.and_eq_true] at hwf
      rw [zeroT, stxt, ← fmt_toLex hA t, ideal_term hW _ h, fmt_atomic L hwf.1]
    | .set ext a first items c, hwf, h => by
      simp only [wsFreeST, wfS, Bool.and_eq_true] at h hwf
      simp only [zeroT, stxt, ws, ideal_append hW, ideal_ws hW hSp, ideal_setL hW hB,
        ideal_setR hW hB, ideal_stxt_zero first hwf.1 h.1, ideal_items_zero items hwf.2 h.2, List.nil_append]
    | .compound a j items c, hwf, h => by
      simp only [wsFreeST, wfS, Bool.and_eq_true] at h hwf
      simp only [zeroT, stxt, ws, ideal_append hW, ideal_ws hW hSp, ideal_kwE hA hW (k := F.compL) (by simp),
        ideal_kwE hA hW (k := F.compR) (by simp), ideal_free hW _ h.1,
        ideal_items_zero items hwf.2 h.2, List.nil_append]
    | .stmt a s b j c p d, hwf, h => by
      simp only [wsFreeST, wfS, Bool.and_eq_true] at h hwf
      simp only [zeroT, stxt, ws, ideal_append hW, ideal_ws hW hSp, ideal_kwE hA hW (k := F.stmtL) (by simp),
        ideal_kwE hA hW (k := F.stmtR) (by simp), ideal_free hW _ h.1.1,
        ideal_stxt_zero s hwf.1.2 h.1.2, ideal_stxt_zero p hwf.2 h.2, List.nil_append]
  theorem ideal_items_zero : ∀ (items : SItems), wfSs F items = true → wsFreeSs F L items = true →
      L.idealize (itemsTxt F items) = itemsTxt F (zeroItems items)
    | .nil, _, _ => ideal_nil
    | .cons b a t ts, hwf, h => by
      simp only [wsFreeSs, wfSs, Bool.and_eq_true] at h hwf
      simp only [zeroItems, itemsTxt, ws, ideal_append hW, ideal_ws hW hSp, ideal_kwE hA hW (k := F.separator) (by simp),
        ideal_stxt_zero t hwf.1 h.1, ideal_items_zero ts hwf.2 h.2, List.nil_append]
end

theorem ideal_stxt : ∀ (st : STerm), wfS F st = true → wsFreeST F L st = true →
    L.idealize (stxt F st) = (noSp L).fmtTerm (erase F st) :=
  fun st hwf h => (ideal_stxt_zero hA hW hSp hB st hwf h).trans (stxt_zeroT hA st hwf)

theorem ideal_items : ∀ (items : SItems), wfSs F items = true → wsFreeSs F L items = true →
    L.idealize (itemsTxt F items) = tailL F.separator (LFormat.fmtTerms (noSp L) (erases F items)) :=
  fun items hwf h => (ideal_items_zero hA hW hSp hB items hwf h).trans (itemsTxt_zero hA items hwf)

end

def truthTexts : Option STruth → List Str
  | none => []
  | some s => s.items.map (·.x.text)

def eraseS (F : EFormat) (s : SSentence) : LSentence :=
  { term := erase F s.term, punct := F.fmtPunct s.punct, stamp := F.fmtStamp (denStamp s.stamp),
    truth := truthTexts s.truth }

def eraseV (F : EFormat) : SValue → LNarsese
  | .term _ st _ => .term (erase F st)
  | .sentence _ s => .sentence (eraseS F s)
  | .task _ k => .task { budget := k.bitems.map (·.x.text), sentence := eraseS F k.sent }

section
variable {F : EFormat} (hI : ItemsOK F) (hO : FoldOK F)
include hI hO

omit hI hO in
theorem foldTruth_texts (tt : Option STruth) (hwt : wfSTruth tt = true) (tr : Truth) (hd : denTruth tt = some tr) :
    foldTruth (truthTexts tt) = .ok tr := by
  cases tt with
  | none =>
    simp only [denTruth, Option.some.injEq] at hd
    subst hd
    rfl
  | some ts =>
    simp only [denTruth] at hd
    simp only [wfSTruth, List.all_eq_true] at hwt
    obtain ⟨hc, _, _, _⟩ := mkTruth_spec hd
    have hwf : wfTruth tr = true := by
      simp only [wfTruth, hc, List.all_eq_true]
      intro x hx
      obtain ⟨s, hs, rfl⟩ := List.mem_map.mp hx
      exact hwt s hs
    simpa [toLexTruth, hc, truthTexts, List.map_map, Function.comp_def] using foldTruth_toLex tr hwf

theorem foldSentence_erase (s : SSentence) (hwf : wfSSent F s = true) (x : Sentence) (hd : denSent F s = some x) :
    F.foldSentence (eraseS F s) = .ok x := by
  simp only [wfSSent, Bool.and_eq_true] at hwf
  obtain ⟨⟨hwt, hwst⟩, hwtr⟩ := hwf
  obtain ⟨t, tr, hdt, hdtr, rfl⟩ := denSent_some hd
  have hst : wfStamp (denStamp s.stamp) = true := by
    cases hs : s.stamp with
    | none => rfl
    | some ss =>
      rw [hs] at hwst
      simp only [wfSStamp, Bool.and_eq_true] at hwst
      exact hwst.1.2
  simp only [foldSentence, eraseS, fold_erase hO s.term hwt t hdt, foldTruth_texts s.truth hwtr tr hdtr,
    stampDoor_fmt hI _ hst, punctDoor_fmt hI, Res.bind]

theorem fold_eraseV (sv : SValue) (hwf : wfV F sv = true) (v : Narsese) (hd : denVal F sv = some v) :
    F.foldNarsese (eraseV F sv) = .ok v := by
  cases sv with
  | term lead st trail =>
    obtain ⟨t, hdt, rfl⟩ := Option.map_eq_some_iff.mp hd
    simp only [eraseV, foldNarsese, fold_erase hO st hwf t hdt, Res.map]
  | sentence lead s =>
    obtain ⟨x, hds, rfl⟩ := Option.map_eq_some_iff.mp hd
    simp only [eraseV, foldNarsese, foldSentence_erase hI hO s hwf x hds, Res.map]
  | task lead k =>
    simp only [wfV, Bool.and_eq_true, List.all_eq_true] at hwf
    obtain ⟨b, x, hdb, hds, rfl⟩ := denVal_task hd
    obtain ⟨hc, _⟩ := mkBudget_spec hdb
    have hwb : wfBudget b = true := by
      simp only [wfBudget, hc, List.all_eq_true]
      intro y hy
      obtain ⟨s, hs, rfl⟩ := List.mem_map.mp hy
      exact hwf.2 s hs
    have hfb : foldBudget (k.bitems.map (·.x.text)) = .ok b := by
      simpa [toLexBudget, hc, List.map_map, Function.comp_def] using foldBudget_toLex b hwb
    simp only [eraseV, foldNarsese, foldTask, hfb, foldSentence_erase hI hO k.sent hwf.1 x hds, Res.bind, Res.map]

end

end Narsese
