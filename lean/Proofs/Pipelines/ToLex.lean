/-
  C03: the lexical image of an enum value (`toLex`), and the fact that the enum formatter prints
  exactly what the lexical formatter prints for the image (terms: character for character; sentences and
  tasks: up to the formatting spaces, which `idealize_env` deletes); hence the lexical parser reads the enum
  formatter's output back as the lexical image.
-/
import Proofs.LRT.Bool
import Proofs.Spelling.Formatted
set_option autoImplicit false

namespace Narsese
open EFormat

/-- the two format records use the same brackets, separators and spaces in their templates -/
def agreeB (F : EFormat) (L : LFormat) : Bool :=
  (L.compL == F.compL && L.compR == F.compR && L.separator == F.separator) &&
  (L.stmtL == F.stmtL && L.stmtR == F.stmtR) &&
  (L.truthL == F.truthL && L.truthR == F.truthR && L.truthSep == F.truthSep) &&
  (L.budgetL == F.budgetL && L.budgetR == F.budgetR && L.budgetSep == F.budgetSep) &&
  (L.spaceTerms == F.spaceTerms && L.spaceItems == F.spaceItems)

structure Agree (F : EFormat) (L : LFormat) : Prop where
  compL : L.compL = F.compL
  compR : L.compR = F.compR
  separator : L.separator = F.separator
  stmtL : L.stmtL = F.stmtL
  stmtR : L.stmtR = F.stmtR
  truthL : L.truthL = F.truthL
  truthR : L.truthR = F.truthR
  truthSep : L.truthSep = F.truthSep
  budgetL : L.budgetL = F.budgetL
  budgetR : L.budgetR = F.budgetR
  budgetSep : L.budgetSep = F.budgetSep
  spaceTerms : L.spaceTerms = F.spaceTerms
  spaceItems : L.spaceItems = F.spaceItems

theorem agree_of_bool {F : EFormat} {L : LFormat} (h : agreeB F L = true) : Agree F L := by
  simp only [agreeB, Bool.and_eq_true, beq_iff_eq] at h
  obtain ⟨⟨⟨⟨⟨⟨a1, a2⟩, a3⟩, ⟨a4, a5⟩⟩, ⟨⟨a6, a7⟩, a8⟩⟩, ⟨⟨a9, a10⟩, a11⟩⟩, ⟨a12, a13⟩⟩ := h
  exact ⟨a1, a2, a3, a4, a5, a6, a7, a8, a9, a10, a11, a12, a13⟩

mutual
  /-- the lexical term the enum formatter's output denotes -/
  def toLex (F : EFormat) : Term → LTerm
    | .atom k n => .atom (F.atomPrefix k) n
    | .placeholder => .atom F.prePlaceholder []
    | .interval n => .atom F.preInterval (showNat n)
    | .setlike k ts =>
      match F.setBrackets k with
      | some (l, r) => .set l (toLexs F ts) r
      | none => .compound (F.setConnecter k) (toLexs F ts)
    | .seqlike k ts => .compound (F.seqConnecter k) (toLexs F ts)
    | .image k i ts => .compound (F.imgConnecter k) (toLexImage F i 0 ts)
    | .neg t => .compound F.cNeg (.cons (toLex F t) .nil)
    | .bin k a b =>
      if k.isStatement then .stmt (F.binKeyword k) (toLex F a) (toLex F b)
      else .compound (F.binKeyword k) (.cons (toLex F a) (.cons (toLex F b) .nil))
  def toLexs (F : EFormat) : Terms → LTerms
    | .nil => .nil
    | .cons t ts => .cons (toLex F t) (toLexs F ts)
  def toLexImage (F : EFormat) (idx : Nat) : Nat → Terms → LTerms
    | now, .nil => if now = idx then .cons (.atom F.prePlaceholder []) .nil else .nil
    | now, .cons t ts =>
      if now = idx then .cons (.atom F.prePlaceholder []) (.cons (toLex F t) (toLexImage F idx (now + 2) ts))
      else .cons (toLex F t) (toLexImage F idx (now + 1) ts)
end

def toLexStamp (F : EFormat) (s : Stamp) : Str := F.fmtStamp s
def toLexTruth (t : Truth) : List Str := t.components.map (·.text)
def toLexBudget (b : Budget) : List Str := b.components.map (·.text)

def toLexSentence (F : EFormat) (s : Sentence) : LSentence :=
  { term := toLex F s.term, punct := F.fmtPunct s.punct, stamp := F.fmtStamp s.stamp,
    truth := toLexTruth s.truthOrEmpty }

def toLexN (F : EFormat) : Narsese → LNarsese
  | .term t => .term (toLex F t)
  | .sentence s => .sentence (toLexSentence F s)
  | .task k => .task { budget := toLexBudget k.budget, sentence := toLexSentence F k.sentence }

section
variable {F : EFormat} {L : LFormat} (hA : Agree F L)
include hA

theorem lex_tplCompound (conn : Str) (cs : List Str) :
    L.compL ++ conn ++ L.separator ++ L.spaceTerms ++ L.joinComponents cs ++ L.compR = F.tplCompound conn cs := by
  simp only [tplCompound, EFormat.joinComponents, LFormat.joinComponents, hA.compL, hA.compR, hA.separator,
    hA.spaceTerms]

mutual
  theorem fmt_toLex : ∀ t : Term, L.fmtTerm (toLex F t) = F.fmtTerm t
    | .atom k n => by simp [toLex, LFormat.fmtTerm, EFormat.fmtTerm]
    | .placeholder => by simp [toLex, LFormat.fmtTerm, EFormat.fmtTerm]
    | .interval n => by simp [toLex, LFormat.fmtTerm, EFormat.fmtTerm]
    | .setlike k ts => by
      simp only [toLex, EFormat.fmtTerm]
      cases hb : F.setBrackets k with
      | some p =>
        obtain ⟨l, r⟩ := p
        simp only [LFormat.fmtTerm, fmts_toLex ts, tplSet, EFormat.joinComponents, LFormat.joinComponents,
          hA.separator, hA.spaceTerms]
      | none =>
        simp only [LFormat.fmtTerm, fmts_toLex ts]
        exact lex_tplCompound hA _ _
    | .seqlike k ts => by
      simp only [toLex, EFormat.fmtTerm, LFormat.fmtTerm, fmts_toLex ts]
      exact lex_tplCompound hA _ _
    | .image k i ts => by
      simp only [toLex, EFormat.fmtTerm, LFormat.fmtTerm, fmtImage_toLex i 0 ts]
      exact lex_tplCompound hA _ _
    | .neg t => by
      simp only [toLex, EFormat.fmtTerm, LFormat.fmtTerm, LFormat.fmtTerms, fmt_toLex t]
      exact lex_tplCompound hA _ _
    | .bin k a b => by
      simp only [toLex, EFormat.fmtTerm]
      split
      · simp only [LFormat.fmtTerm, fmt_toLex a, fmt_toLex b, tplStatement, hA.stmtL, hA.stmtR, hA.spaceTerms]
      · simp only [LFormat.fmtTerm, LFormat.fmtTerms, fmt_toLex a, fmt_toLex b]
        exact lex_tplCompound hA _ _
  theorem fmts_toLex : ∀ ts : Terms, LFormat.fmtTerms L (toLexs F ts) = EFormat.fmtTerms F ts
    | .nil => by simp [toLexs, LFormat.fmtTerms, EFormat.fmtTerms]
    | .cons t ts => by simp [toLexs, LFormat.fmtTerms, EFormat.fmtTerms, fmt_toLex t, fmts_toLex ts]
  theorem fmtImage_toLex (idx : Nat) : ∀ (now : Nat) (ts : Terms),
      LFormat.fmtTerms L (toLexImage F idx now ts) = EFormat.fmtImage F idx now ts
    | now, .nil => by
      simp only [toLexImage, EFormat.fmtImage]
      split <;> simp [LFormat.fmtTerms, LFormat.fmtTerm]
    | now, .cons t ts => by
      simp only [toLexImage, EFormat.fmtImage]
      split
      · simp [LFormat.fmtTerms, LFormat.fmtTerm, fmt_toLex t, fmtImage_toLex idx (now + 2) ts]
      · simp [LFormat.fmtTerms, fmt_toLex t, fmtImage_toLex idx (now + 1) ts]
end

theorem fmtTruth_toLex (tr : Truth) : L.fmtTruth (toLexTruth tr) = F.fmtTruth tr := by
  cases tr <;>
    simp [toLexTruth, Truth.components, LFormat.fmtTruth, EFormat.fmtTruth, fmtFloats, hA.truthL, hA.truthR,
      hA.truthSep]

theorem fmtBudget_toLex (b : Budget) : L.fmtBudget (toLexBudget b) = F.fmtBudget b := by
  simp [toLexBudget, LFormat.fmtBudget, EFormat.fmtBudget, fmtFloats, hA.budgetL, hA.budgetR, hA.budgetSep]

omit hA in
/-- the enum formatter's `join_lest_multiple_separators` is the lexical formatter's -/
theorem joinLest_E : @EFormat.joinLest = @LFormat.joinLest := rfl

/-- the two sentence lines differ only in the spaces between the items -/
theorem ideal_fmtSentence (hW : lWsOKB L = true) (s : Sentence) :
    L.idealize (F.fmtSentence s) = L.idealize (L.fmtSentence (toLexSentence F s)) := by
  unfold EFormat.fmtSentence LFormat.fmtSentence
  rw [ideal_append hW, ideal_append hW, joinLest_E, ideal_joinLest hW _ _ _ _ (hA.spaceTerms ▸ ideal_spaceTerms hW),
    ideal_joinLest hW _ _ _ _ (ideal_spaceItems hW)]
  simp only [toLexSentence, fmt_toLex hA, fmtTruth_toLex hA]

omit hA in
theorem sepItem_isEmpty (sp b : Str) : (if b.isEmpty then [] else sp ++ b).isEmpty = b.isEmpty := by
  cases b <;> simp

/-- whether a sentence line is empty does not depend on the space between its items -/
theorem fmtSentence_isEmpty (s : Sentence) :
    (F.fmtSentence s).isEmpty = (L.fmtSentence (toLexSentence F s)).isEmpty := by
  unfold EFormat.fmtSentence LFormat.fmtSentence
  dsimp only [toLexSentence]
  rw [joinLest_E, joinLest_eq, joinLest_eq]
  simp only [fmt_toLex hA, fmtTruth_toLex hA, isEmpty_append, sepItem_isEmpty]

theorem ideal_fmtNarsese (hW : lWsOKB L = true) (v : Narsese) :
    L.idealize (F.fmtNarsese v) = L.idealize (L.fmtNarsese (toLexN F v)) := by
  cases v with
  | term t => simp only [EFormat.fmtNarsese, LFormat.fmtNarsese, toLexN, fmt_toLex hA]
  | sentence s => exact ideal_fmtSentence hA hW s
  | task k =>
    simp only [EFormat.fmtNarsese, LFormat.fmtNarsese, toLexN, EFormat.fmtTask, LFormat.fmtTask]
    rw [fmtSentence_isEmpty hA k.sentence, fmtBudget_toLex hA]
    split
    · rfl
    · simp only [ideal_append hW, ideal_fmtSentence hA hW k.sentence, hA.spaceItems]

theorem lparse_efmt (hI : LItemsOK L) (hW : lWsOKB L = true) (v : Narsese)
    (hv : wfLNB L (toLexN F v) = true) (hws : wsFreeN L (toLexN F v) = true) :
    L.lparse (F.fmtNarsese v) = .ok (toLexN F v) :=
  lparse_of_ideal hI _ _ (wfLN_of_bool hv) ((ideal_fmtNarsese hA hW v).trans (ideal_narsese hW _ hws))

end

end Narsese
