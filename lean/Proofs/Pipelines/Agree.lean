/-
  `idealize_env` on a spelling of a value leaves its zero spelling (`zeroV`), which is the space-less lexical text of
  the erased value, so the lexical parser reads it; both pipelines agree on every spelling (C03) and the spacing is
  irrelevant (C09). Defined here: the side condition tying the two formats (`LexSide`), whitespace-free spellings
  (`wsFreeSV`), and the decidable top-level criterion on spellings (`topSB`, `topVB`).
-/
import Proofs.Pipelines.Erase
set_option autoImplicit false

namespace Narsese
open EFormat

def stampNumFree (L : LFormat) : Stamp → Bool
  | .fixed t => wsFree L (showInt t)
  | _ => true

/-- no token of the spelling contains a whitespace character -/
def wsFreeSent (F : EFormat) (L : LFormat) (s : SSentence) : Bool :=
  wsFreeST F L s.term && wsFree L (F.fmtPunct s.punct) &&
  wsFree L F.stampL && wsFree L F.stampR && wsFree L (stampKw F (denStamp s.stamp)) &&
  stampNumFree L (denStamp s.stamp) &&
  (truthTexts s.truth).all (wsFree L)

def wsFreeSV (F : EFormat) (L : LFormat) : SValue → Bool
  | .term _ st _ => wsFreeST F L st
  | .sentence _ s => wsFreeSent F L s
  | .task _ k => wsFreeSent F L k.sent && (k.bitems.map (·.x.text)).all (wsFree L)

structure LexSide (F : EFormat) (L : LFormat) : Prop where
  agree : Agree F L
  ws : lWsOKB L = true
  space : spaceWsB F L = true
  brackets : wsFree L F.extSetL = true ∧ wsFree L F.extSetR = true ∧ wsFree L F.intSetL = true ∧ wsFree L F.intSetR = true

def lexSideB (F : EFormat) (L : LFormat) : Bool :=
  agreeB F L && lWsOKB L && spaceWsB F L &&
  (wsFree L F.extSetL && wsFree L F.extSetR && wsFree L F.intSetL && wsFree L F.intSetR)

theorem lexSide_of_bool {F : EFormat} {L : LFormat} (h : lexSideB F L = true) : LexSide F L := by
  simp only [lexSideB, Bool.and_eq_true] at h
  exact ⟨agree_of_bool h.1.1.1, h.1.1.2, h.1.2, h.2.1.1.1, h.2.1.1.2, h.2.1.2, h.2.2⟩

def zeroNums (items : List SNum) : List SNum := items.map (fun s => { s with pre := 0, post := 0 })

def zeroSent (s : SSentence) : SSentence :=
  { term := zeroT s.term, n1 := 0, punct := s.punct,
    stamp := s.stamp.map (fun ss => { ss with n := 0, a := 0, b := 0, c := 0 }),
    truth := s.truth.map (fun ts => { n := 0, items := zeroNums ts.items }), trail := 0 }

def zeroV : SValue → SValue
  | .term _ st _ => .term 0 (zeroT st) 0
  | .sentence _ s => .sentence 0 (zeroSent s)
  | .task _ k => .task 0 { e := 0, bitems := zeroNums k.bitems, n0 := 0, sent := zeroSent k.sent }

section
variable {F : EFormat} {L : LFormat} (hA : Agree F L)
include hA

omit hA in
theorem snumsTxt_zero (sep : Str) (items : List SNum) :
    joinWith sep ((zeroNums items).map (SNum.txt F)) = joinWith sep (items.map (·.x.text)) := by
  congr 1
  simp [zeroNums, List.map_map, Function.comp_def, SNum.txt, ws]

theorem sentTxt_zero (s : SSentence) (hwf : wfSSent F s = true) (tr : Truth) (hdtr : denTruth s.truth = some tr) :
    sentTxt F (zeroSent s) = (noSp L).fmtSentence (eraseS F s) := by
  simp only [wfSSent, Bool.and_eq_true] at hwf
  have hstamp : stampPart F ((s.stamp).map (fun ss => { ss with n := 0, a := 0, b := 0, c := 0 })) =
      F.fmtStamp (denStamp s.stamp) := by
    cases hs : s.stamp with
    | none => simp [stampPart, denStamp, fmtStamp]
    | some ss =>
      have hw := hwf.1.2
      rw [hs] at hw
      simp only [wfSStamp, Bool.and_eq_true, Bool.not_eq_true', beq_eq_false_iff_ne, ne_eq] at hw
      exact sstampTxt_zero F ss.st hw.1.1
  have htruth : truthPart F ((s.truth).map (fun ts => ({ n := 0, items := zeroNums ts.items } : STruth))) =
      truTxt L (truthTexts s.truth) := by
    cases ht : s.truth with
    | none => simp [truthPart, truthTexts, truTxt]
    | some ts =>
      rw [ht] at hdtr
      simp only [denTruth] at hdtr
      obtain ⟨_, hne, _, _⟩ := mkTruth_spec hdtr
      have hine : ts.items ≠ [] := fun h0 => hne (by rw [h0]; rfl)
      have : (ts.items.map (·.x.text)).isEmpty = false := by
        cases hi : ts.items with
        | nil => exact absurd hi hine
        | cons a as => simp
      simp only [Option.map_some, truthPart, struthTxt, ws, List.nil_append, snumsTxt_zero, truthTexts, truTxt, this,
        Bool.false_eq_true, if_false, hA.truthL, hA.truthR, hA.truthSep, List.append_assoc]
  rw [noSp_fmtSentence]
  simp only [sentTxt, ssentTail, zeroSent, ws, List.nil_append, List.append_nil, stxt_zeroT hA s.term hwf.1.1, hstamp,
    htruth, eraseS, List.append_assoc]

theorem svalTxt_zero (sv : SValue) (hwf : wfV F sv = true) (v : Narsese) (hden : denVal F sv = some v) :
    svalTxt F (zeroV sv) = (noSp L).fmtNarsese (eraseV F sv) := by
  cases sv with
  | term lead st trail =>
    simp only [wfV] at hwf
    simp only [zeroV, svalTxt, ws, List.nil_append, List.append_nil, eraseV, LFormat.fmtNarsese, stxt_zeroT hA st hwf]
  | sentence lead s =>
    simp only [wfV] at hwf
    obtain ⟨x, hds, _⟩ := Option.map_eq_some_iff.mp hden
    obtain ⟨_, tr, _, hdtr, _⟩ := denSent_some hds
    simp only [zeroV, svalTxt, ws, List.nil_append, eraseV, LFormat.fmtNarsese, sentTxt_zero hA s hwf tr hdtr]
  | task lead k =>
    simp only [wfV, Bool.and_eq_true] at hwf
    obtain ⟨_, x, _, hds, _⟩ := denVal_task hden
    obtain ⟨_, tr, _, hdtr, _⟩ := denSent_some hds
    have hs := sentTxt_zero hA k.sent hwf.1 tr hdtr
    have hbud : sbudgetTxt F 0 (zeroNums k.bitems) = L.fmtBudget (k.bitems.map (·.x.text)) := by
      simp only [sbudgetTxt, snumsTxt, LFormat.fmtBudget, hA.budgetL, hA.budgetR, hA.budgetSep, List.append_assoc]
      cases hb : k.bitems with
      | nil => rfl
      | cons a as => exact congrArg (fun x => F.budgetL ++ (x ++ F.budgetR)) (snumsTxt_zero (F := F) F.budgetSep (a :: as))
    simp only [zeroV, svalTxt, taskTxt, ws, List.nil_append, eraseV, LFormat.fmtNarsese, hbud, hs]
    rw [noSp_fmtTask]

end

section
variable {F : EFormat} {L : LFormat} (hX : LexSide F L)
include hX

theorem ideal_ws' (n : Nat) : L.idealize (ws F n) = [] := ideal_ws hX.ws hX.space n

theorem ideal_snums_zero (sep : Str) (hsep : L.idealize sep = sep) (items : List SNum)
    (h : (items.map (·.x.text)).all (wsFree L) = true) :
    L.idealize (joinWith sep (items.map (SNum.txt F))) = joinWith sep ((zeroNums items).map (SNum.txt F)) := by
  have hj := ideal_join hX.ws sep [] hsep ideal_nil (items.map (SNum.txt F))
  rw [List.append_nil] at hj
  rw [hj, zeroNums, List.map_map, List.map_map]
  congr 1
  apply List.map_congr_left
  intro s hs
  simp only [List.all_eq_true, List.mem_map] at h
  simp only [Function.comp, SNum.txt, ws, ideal_append hX.ws, ideal_ws' hX, ideal_free hX.ws _ (h _ ⟨s, hs, rfl⟩),
    List.nil_append]

theorem ideal_sentTxt_zero (s : SSentence) (hwf : wfSSent F s = true) (hws : wsFreeSent F L s = true) :
    L.idealize (sentTxt F s) = sentTxt F (zeroSent s) := by
  have hA := hX.agree
  simp only [wfSSent, Bool.and_eq_true] at hwf
  simp only [wsFreeSent, Bool.and_eq_true] at hws
  obtain ⟨⟨⟨⟨⟨⟨w1, w2⟩, w3⟩, w4⟩, w5⟩, w6⟩, w7⟩ := hws
  have hstamp : L.idealize (stampPart F s.stamp) =
      stampPart F (s.stamp.map (fun ss => { ss with n := 0, a := 0, b := 0, c := 0 })) := by
    cases hs : s.stamp with
    | none => exact ideal_nil
    | some ss =>
      rw [hs] at w5 w6
      simp only [denStamp] at w5 w6
      simp only [Option.map_some, stampPart, sstampTxt, ws, ideal_append hX.ws, ideal_ws' hX, ideal_free hX.ws _ w3,
        ideal_free hX.ws _ w4, ideal_free hX.ws _ w5, List.nil_append]
      cases hst : ss.st with
      | fixed t =>
        rw [hst] at w6
        simp only [stampNum, ws, ideal_append hX.ws, ideal_ws' hX, ideal_free hX.ws _ w6, List.nil_append]
      | _ => simp only [stampNum, ideal_nil]
  have htruth : L.idealize (truthPart F s.truth) =
      truthPart F (s.truth.map (fun ts => ({ n := 0, items := zeroNums ts.items } : STruth))) := by
    cases ht : s.truth with
    | none => exact ideal_nil
    | some ts =>
      rw [ht] at w7
      have htl : L.idealize F.truthL = F.truthL := ideal_kwE hA hX.ws (by simp)
      have htr : L.idealize F.truthR = F.truthR := ideal_kwE hA hX.ws (by simp)
      have hts : L.idealize F.truthSep = F.truthSep := ideal_kwE hA hX.ws (by simp)
      simp only [Option.map_some, truthPart, struthTxt, ws, ideal_append hX.ws, ideal_ws' hX, htl, htr,
        ideal_snums_zero hX _ hts ts.items w7, List.nil_append]
  simp only [sentTxt, ssentTail, zeroSent, ws, ideal_append hX.ws, ideal_ws' hX,
    ideal_stxt_zero hA hX.ws hX.space hX.brackets s.term hwf.1.1 w1, hstamp, htruth, ideal_free hX.ws _ w2,
    List.nil_append, List.append_nil]

theorem ideal_svalTxt_zero (sv : SValue) (hwf : wfV F sv = true) (hws : wsFreeSV F L sv = true) :
    L.idealize (svalTxt F sv) = svalTxt F (zeroV sv) := by
  have hA := hX.agree
  cases sv with
  | term lead st trail =>
    simp only [svalTxt, zeroV, ws, ideal_append hX.ws, ideal_ws' hX,
      ideal_stxt_zero hA hX.ws hX.space hX.brackets st hwf hws, List.nil_append, List.append_nil]
  | sentence lead s =>
    simp only [svalTxt, zeroV, ws, ideal_append hX.ws, ideal_ws' hX, ideal_sentTxt_zero hX s hwf hws, List.nil_append]
  | task lead k =>
    simp only [wfV, wsFreeSV, Bool.and_eq_true] at hwf hws
    have hbl : L.idealize F.budgetL = F.budgetL := ideal_kwE hA hX.ws (by simp)
    have hbr : L.idealize F.budgetR = F.budgetR := ideal_kwE hA hX.ws (by simp)
    have hbs : L.idealize F.budgetSep = F.budgetSep := ideal_kwE hA hX.ws (by simp)
    have hbud : L.idealize (snumsTxt F F.budgetSep k.e k.bitems) = snumsTxt F F.budgetSep 0 (zeroNums k.bitems) := by
      cases hb : k.bitems with
      | nil => simp only [snumsTxt, zeroNums, List.map_nil, List.isEmpty_nil, if_true, ideal_ws' hX, ws]
      | cons a as =>
        rw [← hb]
        have : k.bitems.isEmpty = false ∧ (zeroNums k.bitems).isEmpty = false := by simp [hb, zeroNums]
        simp only [snumsTxt, this.1, this.2, Bool.false_eq_true, if_false, ideal_snums_zero hX _ hbs k.bitems hws.2]
    simp only [svalTxt, zeroV, taskTxt, sbudgetTxt, ws, ideal_append hX.ws, ideal_ws' hX, hbl, hbr, hbud,
      ideal_sentTxt_zero hX k.sent hwf.1 hws.1, List.nil_append]

theorem ideal_svalTxt (sv : SValue) (hwf : wfV F sv = true) (hws : wsFreeSV F L sv = true) (v : Narsese)
    (hden : denVal F sv = some v) : L.idealize (svalTxt F sv) = (noSp L).fmtNarsese (eraseV F sv) :=
  (ideal_svalTxt_zero hX sv hwf hws).trans (svalTxt_zero hX.agree sv hwf v hden)

end

/-- decidable criterion for `topSOK` -/
def topSB (F : EFormat) (st : STerm) : Bool :=
  incompat F.budgetL (stxt F st) ||
  (match st with
   | .atom t => topOKB F t
   | _ => false)

theorem topSOK_of_B {F : EFormat} (hI : ItemsOK F) (st : STerm) (hwf : wfS F st = true) (h : topSB F st = true) :
    topSOK F st := by
  simp only [topSB, Bool.or_eq_true] at h
  rcases h with h | h
  · exact .inl (fun X => not_isPre_of_incompat h X)
  · match st, hwf, h with
    | .atom t, hwf, h =>
      simp only [wfS, Bool.and_eq_true] at hwf
      exact topOK_of_B hI t hwf.2 h

def topVB (F : EFormat) : SValue → Bool
  | .term _ st _ => topSB F st
  | .sentence _ s => topSB F s.term
  | .task _ _ => true

theorem topV_of_B {F : EFormat} (hI : ItemsOK F) (sv : SValue) (hwf : wfV F sv = true) (h : topVB F sv = true) :
    topV F sv := by
  cases sv with
  | term lead st trail => exact topSOK_of_B hI st hwf h
  | sentence lead s =>
    simp only [wfV, wfSSent, Bool.and_eq_true] at hwf
    exact topSOK_of_B hI s.term hwf.1.1 h
  | task lead k => trivial

theorem lparse_svalTxt {F : EFormat} {L : LFormat} (hX : LexSide F L) (hI : ItemsOK F) (hLI : LItemsOK L)
    (sv : SValue) (hwf : wfV F sv = true) (hws : wsFreeSV F L sv = true) (v : Narsese)
    (hden : denVal F sv = some v) (hlv : wfLN L (eraseV F sv)) :
    L.lparse (svalTxt F sv) = .ok (eraseV F sv) :=
  lparse_of_ideal hLI _ _ hlv (ideal_svalTxt hX sv hwf hws v hden)

/-- **C03, every spelling**: on any spacing of any surface value — derived copulas included — the enum
parser and the lexical parser followed by folding both succeed and return the same value, the denotation -/
theorem pipelines_agree_surface {F : EFormat} {L : LFormat} (hV : SurfaceItemsOK F) (hO : FoldOK F)
    (hX : LexSide F L) (hLI : LItemsOK L) (sv : SValue) (hwf : wfV F sv = true) (htop : topVB F sv = true)
    (hws : wsFreeSV F L sv = true) (v : Narsese) (hden : denVal F sv = some v) (hlv : wfLN L (eraseV F sv)) :
    F.eparse (svalTxt F sv) = .ok v ∧ (L.lparse (svalTxt F sv)).bind F.foldNarsese = .ok v := by
  refine ⟨eparse_svalTxt hV sv hwf (topV_of_B hV.items sv hwf htop) v hden, ?_⟩
  rw [lparse_svalTxt hX hV.items hLI sv hwf hws v hden hlv]
  exact fold_eraseV hV.items hO sv hwf v hden

/-- **C09**: two spellings of the same token sequence parse to the same value, in both pipelines -/
theorem spacing_irrelevant {F : EFormat} {L : LFormat} (hV : SurfaceItemsOK F) (hO : FoldOK F)
    (hX : LexSide F L) (hLI : LItemsOK L) (sv sw : SValue) (hsame : eraseV F sv = eraseV F sw)
    (hwf : wfV F sv = true) (hwf' : wfV F sw = true) (htop : topVB F sv = true) (htop' : topVB F sw = true)
    (hws : wsFreeSV F L sv = true) (hws' : wsFreeSV F L sw = true)
    (hd : (denVal F sv).isSome = true) (hd' : (denVal F sw).isSome = true) (hlv : wfLN L (eraseV F sv)) :
    F.eparse (svalTxt F sv) = F.eparse (svalTxt F sw) ∧
    (L.lparse (svalTxt F sv)).bind F.foldNarsese = (L.lparse (svalTxt F sw)).bind F.foldNarsese ∧
    F.eparse (svalTxt F sv) = (L.lparse (svalTxt F sv)).bind F.foldNarsese := by
  obtain ⟨v, hv⟩ := Option.isSome_iff_exists.mp hd
  obtain ⟨w, hw⟩ := Option.isSome_iff_exists.mp hd'
  have h1 := pipelines_agree_surface hV hO hX hLI sv hwf htop hws v hv hlv
  have h2 := pipelines_agree_surface hV hO hX hLI sw hwf' htop' hws' w hw (hsame ▸ hlv)
  have e1 := fold_eraseV hV.items hO sv hwf v hv
  have e2 := fold_eraseV hV.items hO sw hwf' w hw
  rw [hsame, e2] at e1
  have hvw : w = v := Res.ok.inj e1
  subst hvw
  exact ⟨h1.1.trans h2.1.symm, h1.2.trans h2.2.symm, h1.1.trans h1.2.symm⟩

theorem respaced_value {F : EFormat} {L : LFormat} (hV : SurfaceItemsOK F) (hO : FoldOK F)
    (hX : LexSide F L) (hLI : LItemsOK L) (v : Narsese) (hv : wfN F v = true) (sv : SValue)
    (hsame : eraseV F sv = toLexN F v) (hwf : wfV F sv = true) (htop : topVB F sv = true)
    (hws : wsFreeSV F L sv = true) (hd : (denVal F sv).isSome = true) (hlv : wfLN L (eraseV F sv)) :
    F.eparse (svalTxt F sv) = .ok v ∧ (L.lparse (svalTxt F sv)).bind F.foldNarsese = .ok v := by
  obtain ⟨w, hw⟩ := Option.isSome_iff_exists.mp hd
  have e1 := fold_eraseV hV.items hO sv hwf w hw
  rw [hsame, fold_toLexN hV.items hO v hv] at e1
  have : v = w := Res.ok.inj e1
  subst this
  exact pipelines_agree_surface hV hO hX hLI sv hwf htop hws v hw hlv

end Narsese
