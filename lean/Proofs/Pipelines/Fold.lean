/-
  C03: `foldTerm` on a keyword of fold's tables (one lemma per lexical constructor); folding the lexical image
  of a term, sentence or task gives the value back — `fold (toLex v) = Ok v`; the two pipelines on the enum
  formatter's output.
-/
import Proofs.Pipelines.ToLex
import Props.C10a
set_option autoImplicit false

namespace Narsese
open EFormat

/-- every key of a keyword table is found at its own entry (keys pairwise distinct) -/
def hits {β : Type} [DecidableEq β] (tbl : List (Str × β)) : Bool :=
  tbl.all (fun e => tbl.find? (fun x => decide (e.1 = x.1)) == some e)

theorem hits_spec {β : Type} [DecidableEq β] {tbl : List (Str × β)} (h : hits tbl = true) {e : Str × β}
    (he : e ∈ tbl) : tbl.find? (fun x => decide (e.1 = x.1)) = some e := by
  simp only [hits, List.all_eq_true, beq_iff_eq] at h
  exact h e he

/-- decidable: the fold tables map every keyword to its own constructor -/
def foldOKB (F : EFormat) : Bool :=
  hits F.foldAtomTable && hits F.foldConnTable && hits F.copulaTable &&
  decide ((F.extSetL, F.extSetR) ≠ (F.intSetL, F.intSetR))

structure FoldOK (F : EFormat) : Prop where
  atoms : hits F.foldAtomTable = true
  conns : hits F.foldConnTable = true
  cops : hits F.copulaTable = true
  sets : (F.extSetL, F.extSetR) ≠ (F.intSetL, F.intSetR)

theorem foldOK_of_bool {F : EFormat} (h : foldOKB F = true) : FoldOK F := by
  simp only [foldOKB, Bool.and_eq_true, decide_eq_true_eq] at h
  exact ⟨h.1.1.1, h.1.1.2, h.1.2, h.2⟩

theorem atomPrefix_fold (F : EFormat) (k : AtomK) : (F.atomPrefix k, AtomHead.named k) ∈ F.foldAtomTable := by
  cases k <;> simp only [foldAtomTable, atomPrefix, List.mem_cons, true_or, or_true]

theorem setConnecter_fold {F : EFormat} {k : SetK} (h : F.setBrackets k = none) :
    (F.setConnecter k, ConnK.set k) ∈ F.foldConnTable := by
  cases k <;> simp only [EFormat.setBrackets, reduceCtorEq, foldConnTable, setConnecter, List.mem_cons, true_or, or_true] at h ⊢

theorem seqConnecter_fold (F : EFormat) (k : SeqK) : (F.seqConnecter k, ConnK.seq k) ∈ F.foldConnTable := by
  cases k <;> simp only [foldConnTable, seqConnecter, List.mem_cons, true_or, or_true]

theorem imgConnecter_fold (F : EFormat) (k : ImgK) : (F.imgConnecter k, ConnK.img k) ∈ F.foldConnTable := by
  cases k <;> simp only [foldConnTable, imgConnecter, List.mem_cons, true_or, or_true]

theorem binKeyword_copula {F : EFormat} {k : BinK} (h : k.isStatement = true) :
    (F.binKeyword k, CopK.plain k) ∈ F.copulaTable := by
  cases k <;> simp only [BinK.isStatement, Bool.false_eq_true, copulaTable, binKeyword, List.mem_cons, true_or, or_true] at h ⊢

theorem binKeyword_fold {F : EFormat} {k : BinK} (h : ¬ k.isStatement = true) :
    (F.binKeyword k, ConnK.diff k) ∈ F.foldConnTable := by
  cases k <;> simp only [BinK.isStatement, not_true_eq_false, foldConnTable, binKeyword, List.mem_cons, true_or, or_true] at h ⊢

/-- whatever the parser's compound tail builds, fold builds too -/
theorem buildCompound_of_finishT (ck : ConnK) (l : List Term) (t : Term) (h : finishT ck l = some t) :
    buildCompound ck l = .ok t := by
  unfold finishT at h
  cases ck with
  | neg =>
    match l, h with
    | [x], h =>
      cases h
      rfl
  | diff k =>
    match l, h with
    | [a, b], h =>
      cases h
      rfl
  | img k =>
    simp only at h
    cases he : extractPlaceholder l with
    | none => simp [he] at h
    | some p =>
      obtain ⟨i, ts'⟩ := p
      simp only [he, Option.some.injEq] at h
      obtain ⟨pre, post, e1, e2, e3, e4⟩ := Props.C10.extract_shape l i ts' he
      have := (Props.C10.image_both_pipelines k pre post e2).1
      rw [e1, this, ← h, e3, e4]
  | seq k =>
    cases h
    rfl
  | set k =>
    cases h
    rfl
  | operatorUnsupported => cases h

section
variable {F : EFormat} (hO : FoldOK F)
include hO

theorem foldTerm_atom {pre : Str} {hd : AtomHead} (name : Str) (h : (pre, hd) ∈ F.foldAtomTable) :
    F.foldTerm (.atom pre name) = buildAtom hd name := by
  have := hits_spec hO.atoms h
  simp only at this
  simp only [foldTerm, foldAtom, this]

theorem foldTerm_compound {conn : Str} {ck : ConnK} {lts : LTerms} {ts : List Term} {t : Term}
    (h : (conn, ck) ∈ F.foldConnTable) (hts : F.foldTerms lts = .ok ts) (hfin : finishT ck ts = some t) :
    F.foldTerm (.compound conn lts) = .ok t := by
  have := hits_spec hO.conns h
  simp only at this
  simp only [foldTerm, hts, foldCompound, this]
  exact buildCompound_of_finishT ck ts t hfin

theorem foldTerm_stmt {cop : Str} {ck : CopK} {ls lp : LTerm} {s p : Term} (h : (cop, ck) ∈ F.copulaTable)
    (hs : F.foldTerm ls = .ok s) (hp : F.foldTerm lp = .ok p) :
    F.foldTerm (.stmt cop ls lp) = .ok (ck.build s p) := by
  have := hits_spec hO.cops h
  simp only at this
  simp only [foldTerm, hs, hp, foldStatement, this]

theorem foldTerm_set {k : SetK} {l r : Str} {lts : LTerms} {ts : List Term} (hb : F.setBrackets k = some (l, r))
    (hts : F.foldTerms lts = .ok ts) :
    F.foldTerm (.set l lts r) = .ok (.setlike k (Terms.ofList (mkSetSem ts))) := by
  have hne : ¬ ((F.intSetL, F.intSetR) = (F.extSetL, F.extSetR)) := fun h => hO.sets h.symm
  cases k <;> simp only [EFormat.setBrackets, Option.some.injEq, reduceCtorEq, Prod.mk.injEq] at hb
  · obtain ⟨rfl, rfl⟩ := hb
    simp only [foldTerm, hts, foldSet, List.find?, decide_true]
  · obtain ⟨rfl, rfl⟩ := hb
    simp only [foldTerm, hts, foldSet, List.find?, hne, decide_false, decide_true]

theorem foldTerm_placeholder : F.foldTerm (.atom F.prePlaceholder []) = .ok .placeholder :=
  foldTerm_atom hO [] (hd := .placeholder) (by simp [foldAtomTable])

mutual
  theorem fold_toLex : ∀ t : Term, wfT F t = true → F.foldTerm (toLex F t) = .ok t
    | .atom k n, _ => by rw [toLex, foldTerm_atom hO n (atomPrefix_fold F k), buildAtom]
    | .placeholder, _ => foldTerm_placeholder hO
    | .interval n, ht => by
      simp only [wfT, decide_eq_true_eq] at ht
      rw [toLex, foldTerm_atom hO _ (hd := .interval) (by simp [foldAtomTable]), buildAtom, parseUsize_showNat n ht]
    | .setlike k ts, ht => by
      simp only [wfT, Bool.and_eq_true] at ht
      have hts := folds_toLex ts ht.1.2
      have hset : Terms.ofList (mkSetSem ts.toList) = ts := by rw [mkSetSem_nodup_id _ ht.2, Terms.ofList_toList]
      rw [toLex]
      cases hb : F.setBrackets k with
      | some p => rw [foldTerm_set hO hb hts, hset]
      | none => exact foldTerm_compound hO (setConnecter_fold hb) hts (by rw [finishT, hset])
    | .seqlike k ts, ht => by
      simp only [wfT, Bool.and_eq_true] at ht
      rw [toLex]
      exact foldTerm_compound hO (seqConnecter_fold F k) (folds_toLex ts ht.2) (by rw [finishT, Terms.ofList_toList])
    | .image k i ts, ht => by
      simp only [wfT, Bool.and_eq_true, decide_eq_true_eq] at ht
      obtain ⟨⟨hi, hwf⟩, hnp⟩ := ht
      rw [toLex]
      exact foldTerm_compound hO (imgConnecter_fold F k) (foldImage_toLex i 0 ts hwf)
        (by simp only [finishT, extract_imageIter i ts hi hnp, Terms.ofList_toList])
    | .neg t, ht => by
      simp only [wfT] at ht
      rw [toLex]
      exact foldTerm_compound hO (ck := .neg) (ts := [t]) (by simp [foldConnTable])
        (by simp only [foldTerms, fold_toLex t ht]) rfl
    | .bin k a b, ht => by
      simp only [wfT, Bool.and_eq_true] at ht
      have ha := fold_toLex a ht.1
      have hb := fold_toLex b ht.2
      rw [toLex]
      split
      · next h => rw [foldTerm_stmt hO (binKeyword_copula h) ha hb, CopK.build]
      · next h => exact foldTerm_compound hO (binKeyword_fold h) (ts := [a, b]) (by simp only [foldTerms, ha, hb]) rfl
  theorem folds_toLex : ∀ ts : Terms, wfTs F ts = true → F.foldTerms (toLexs F ts) = .ok ts.toList
    | .nil, _ => by simp [toLexs, foldTerms, Terms.toList]
    | .cons t ts, h => by
      simp only [wfTs, Bool.and_eq_true] at h
      simp only [toLexs, foldTerms, fold_toLex t h.1, folds_toLex ts h.2, Terms.toList]
  theorem foldImage_toLex (idx : Nat) : ∀ (now : Nat) (ts : Terms), wfTs F ts = true →
      F.foldTerms (toLexImage F idx now ts) = .ok (imageIter idx now ts.toList)
    | now, .nil, _ => by
      simp only [toLexImage, imageIter, Terms.toList]
      split
      · simp only [foldTerms, foldTerm_placeholder hO]
      · simp only [foldTerms]
    | now, .cons t ts, hwf => by
      simp only [wfTs, Bool.and_eq_true] at hwf
      simp only [toLexImage, imageIter, Terms.toList]
      split
      · simp only [foldTerms, foldTerm_placeholder hO, fold_toLex t hwf.1, foldImage_toLex idx (now + 2) ts hwf.2]
      · simp only [foldTerms, fold_toLex t hwf.1, foldImage_toLex idx (now + 1) ts hwf.2]
end

end

theorem foldFloats_texts : ∀ xs : List Num, (∀ x ∈ xs, x.ok = true) → foldFloats (xs.map (·.text)) = .ok xs
  | [], _ => rfl
  | x :: xs, h => by
    simp only [List.map_cons, foldFloats, readNum_ok x (h x (by simp)),
      foldFloats_texts xs (fun y hy => h y (by simp [hy])), Res.map]

theorem tryFromFloats_truth (tr : Truth) (h : ∀ x ∈ tr.components, x.in01 = true) :
    Truth.tryFromFloats tr.components = .ok tr := by
  rw [Truth.tryFromFloats, Props.C13.truth_try_eq, if_pos (List.all_eq_true.mpr fun x hx => h x (List.mem_of_mem_take hx))]
  cases tr <;> rfl

theorem tryFromFloats_budget (b : Budget) (h : ∀ x ∈ b.components, x.in01 = true) :
    Budget.tryFromFloats b.components = .ok b := by
  rw [Budget.tryFromFloats, Props.C13.budget_try_eq, if_pos (List.all_eq_true.mpr fun x hx => h x (List.mem_of_mem_take hx))]
  cases b <;> rfl

theorem foldTruth_toLex (tr : Truth) (h : wfTruth tr = true) : foldTruth (toLexTruth tr) = .ok tr := by
  have hok : ∀ x ∈ tr.components, x.ok = true := by simpa [wfTruth, List.all_eq_true] using h
  unfold foldTruth toLexTruth
  rw [foldFloats_texts _ hok]
  exact tryFromFloats_truth tr fun x hx => in01_of_ok (hok x hx)

theorem foldBudget_toLex (b : Budget) (h : wfBudget b = true) : foldBudget (toLexBudget b) = .ok b := by
  have hok : ∀ x ∈ b.components, x.ok = true := by simpa [wfBudget, List.all_eq_true] using h
  unfold foldBudget toLexBudget
  rw [foldFloats_texts _ hok]
  exact tryFromFloats_budget b fun x hx => in01_of_ok (hok x hx)

section
variable {F : EFormat} (hI : ItemsOK F)
include hI

theorem stampDoor_fmt (st : Stamp) (hwf : wfStamp st = true) : F.parseStampDoor (F.fmtStamp st) = .ok st := by
  by_cases he : st = .eternal
  · subst he
    simp [parseStampDoor, fmtStamp]
  · have hne := fmtStamp_ne hI st he
    have h := consumeStamp_spaced hI (F.fmtStamp st).length st he hwf 0 0 0 []
      (stamp_followW hI 0 [] (.inl rfl))
    rw [List.append_nil, sstampTxt_zero F st he] at h
    have hc : Cur.ofEnv (F.fmtStamp st) = mk (F.fmtStamp st).length (F.fmtStamp st) := rfl
    unfold parseStampDoor
    simp only [nonempty_isEmpty hne, Bool.false_eq_true, if_false, hc, h, eagerErr_eq_ok]
    rfl

theorem punctDoor_fmt (p : Punct) : F.parsePunctDoor (F.fmtPunct p) = .ok p := by
  have h := consumePunct_txt hI (F.fmtPunct p).length p []
  rw [List.append_nil] at h
  have hc : Cur.ofEnv (F.fmtPunct p) = mk (F.fmtPunct p).length (F.fmtPunct p) := rfl
  unfold parsePunctDoor
  simp only [hc, h, eagerErr_eq_ok]
  rfl

theorem foldSentence_toLex (hO : FoldOK F) (s : Sentence) (hwf : wfSentence F s = true) :
    F.foldSentence (toLexSentence F s) = .ok s := by
  simp only [wfSentence, Bool.and_eq_true] at hwf
  obtain ⟨⟨ht, hst⟩, htr⟩ := hwf
  simp only [foldSentence, toLexSentence, fold_toLex hO s.term ht, foldTruth_toLex _ htr, stampDoor_fmt hI _ hst,
    punctDoor_fmt hI, Res.bind, fromPunctuation_self]

theorem fold_toLexN (hO : FoldOK F) (v : Narsese) (hwf : wfN F v = true) : F.foldNarsese (toLexN F v) = .ok v := by
  cases v with
  | term t => simp only [toLexN, foldNarsese, fold_toLex hO t hwf, Res.map]
  | sentence s => simp only [toLexN, foldNarsese, foldSentence_toLex hI hO s hwf, Res.map]
  | task k =>
    simp only [wfN, wfTask, Bool.and_eq_true] at hwf
    simp only [toLexN, foldNarsese, foldTask, foldBudget_toLex _ hwf.2, foldSentence_toLex hI hO _ hwf.1, Res.bind,
      Res.map]

end

/-- **C03 on everything the enum formatter can emit**: both pipelines succeed on `format v` and give `v` -/
theorem pipelines_agree_on_formatted {F : EFormat} {L : LFormat} (hI : ItemsOK F) (hO : FoldOK F)
    (hA : Agree F L) (hLI : LItemsOK L) (hW : lWsOKB L = true) (v : Narsese)
    (hwf : wfN F v = true) (htop : topN F v = true)
    (hlv : wfLNB L (toLexN F v) = true) (hws : wsFreeN L (toLexN F v) = true) :
    F.eparse (F.fmtNarsese v) = .ok v ∧
    (L.lparse (F.fmtNarsese v)).bind F.foldNarsese = .ok v := by
  refine ⟨eparse_fmtNarsese hI v hwf htop, ?_⟩
  rw [lparse_efmt hA hLI hW v hlv hws]
  exact fold_toLexN hI hO v hwf

end Narsese
