/-
  An executable family of spellings of an enum value — the formatter's token
  sequence with `σ`-many spaces at every token boundary, optionally written with the derived copulas.
  Used by the driver to produce instances of the master theorem that are then run on the real crate.
-/
import Proofs.Pipelines.Agree
set_option autoImplicit false

namespace Narsese
open EFormat

mutual
  /-- spelling of a term: `σ` gives the number of spaces at each boundary (indexed by a path code `i`);
  `sugar` writes `inh({s}, p)`, `inh(s, [p])`, `inh({s}, [p])` and predictive equivalence with the derived copulas -/
  def toS (σ : Nat → Nat) (sugar : Bool) : Nat → Term → STerm
    | _, .atom k n => .atom (.atom k n)
    | _, .placeholder => .atom .placeholder
    | _, .interval n => .atom (.interval n)
    | i, .setlike k ts =>
      match k, ts with
      | .extSet, .cons t ts' => .set true (σ i) (toS σ sugar (5 * i + 1) t) (toSItems σ sugar (5 * i + 2) ts') (σ (i + 1))
      | .intSet, .cons t ts' => .set false (σ i) (toS σ sugar (5 * i + 1) t) (toSItems σ sugar (5 * i + 2) ts') (σ (i + 1))
      | k, ts => .compound (σ i) (connIdxSet k) (toSItems σ sugar (5 * i + 2) ts) (σ (i + 1))
    | i, .seqlike k ts => .compound (σ i) (connIdxSeq k) (toSItems σ sugar (5 * i + 2) ts) (σ (i + 1))
    | i, .image k idx ts => .compound (σ i) (connIdxImg k) (toSImage σ sugar idx (5 * i + 2) 0 ts) (σ (i + 1))
    | i, .neg t => .compound (σ i) 3 (.cons (σ (i + 2)) (σ (i + 3)) (toS σ sugar (5 * i + 1) t) .nil) (σ (i + 1))
    | i, .bin k a b =>
      if k.isStatement then
        let plain := STerm.stmt (σ i) (toS σ sugar (5 * i + 1) a) (σ (i + 1)) (copIdx k) (σ (i + 2))
          (toS σ sugar (5 * i + 2) b) (σ (i + 3))
        if sugar then
          match k, a, b with
          | .inh, .setlike .extSet (.cons s .nil), .setlike .intSet (.cons p .nil) =>
            .stmt (σ i) (toS σ sugar (5 * i + 1) s) (σ (i + 1)) 6 (σ (i + 2)) (toS σ sugar (5 * i + 2) p) (σ (i + 3))
          | .inh, .setlike .extSet (.cons s .nil), p =>
            .stmt (σ i) (toS σ sugar (5 * i + 1) s) (σ (i + 1)) 4 (σ (i + 2)) (toS σ sugar (5 * i + 2) p) (σ (i + 3))
          | .inh, s, .setlike .intSet (.cons p .nil) =>
            .stmt (σ i) (toS σ sugar (5 * i + 1) s) (σ (i + 1)) 5 (σ (i + 2)) (toS σ sugar (5 * i + 2) p) (σ (i + 3))
          | .equivPred, s, p =>
            .stmt (σ i) (toS σ sugar (5 * i + 2) p) (σ (i + 1)) 12 (σ (i + 2)) (toS σ sugar (5 * i + 1) s) (σ (i + 3))
          | _, _, _ => plain
        else plain
      else
        .compound (σ i) (copIdx k) (.cons (σ (i + 2)) (σ (i + 3)) (toS σ sugar (5 * i + 1) a)
          (.cons (σ (i + 4)) (σ (i + 5)) (toS σ sugar (5 * i + 2) b) .nil)) (σ (i + 1))
  def toSItems (σ : Nat → Nat) (sugar : Bool) : Nat → Terms → SItems
    | _, .nil => .nil
    | i, .cons t ts => .cons (σ (i + 6)) (σ (i + 7)) (toS σ sugar (5 * i + 3) t) (toSItems σ sugar (5 * i + 4) ts)
  def toSImage (σ : Nat → Nat) (sugar : Bool) (idx : Nat) : Nat → Nat → Terms → SItems
    | i, now, .nil => if now = idx then .cons (σ (i + 6)) (σ (i + 7)) (.atom .placeholder) .nil else .nil
    | i, now, .cons t ts =>
      if now = idx then
        .cons (σ (i + 6)) (σ (i + 7)) (.atom .placeholder)
          (.cons (σ (i + 8)) (σ (i + 9)) (toS σ sugar (5 * i + 3) t) (toSImage σ sugar idx (5 * i + 4) (now + 2) ts))
      else .cons (σ (i + 6)) (σ (i + 7)) (toS σ sugar (5 * i + 3) t) (toSImage σ sugar idx (5 * i + 4) (now + 1) ts)
end

def toSNums (σ : Nat → Nat) (i : Nat) : List Num → List SNum
  | [] => []
  | x :: xs => { pre := σ (i + 1), x := x, post := σ (i + 2) } :: toSNums σ (3 * i + 1) xs

def toSSent (F : EFormat) (σ : Nat → Nat) (sugar : Bool) (s : Sentence) : SSentence :=
  { term := toS σ sugar 1 s.term, n1 := σ 100, punct := s.punct,
    stamp := if s.stamp = .eternal then none
      else some { n := σ 101, a := if F.stampL.isEmpty then 0 else σ 102, b := σ 103, c := σ 104, st := s.stamp },
    truth := if s.truthOrEmpty = .empty then none
      else some { n := σ 105, items := toSNums σ 106 s.truthOrEmpty.components },
    trail := σ 107 }

/-- a spelling of a whole value -/
def spell (F : EFormat) (σ : Nat → Nat) (sugar : Bool) : Narsese → SValue
  | .term t => .term (σ 200) (toS σ sugar 1 t) (σ 201)
  | .sentence s => .sentence (σ 200) (toSSent F σ sugar s)
  | .task k =>
    let st : STask := { e := σ 202, bitems := toSNums σ 203 k.budget.components, n0 := σ 204, sent := toSSent F σ sugar k.sentence }
    .task (σ 200) st

/-- all decidable hypotheses of `pipelines_agree_surface` for a spelling, and that it denotes `v` -/
def spellOK (F : EFormat) (L : LFormat) (sv : SValue) (v : Narsese) : Bool :=
  wfV F sv && topVB F sv && wsFreeSV F L sv && wfLNB L (eraseV F sv) && (denVal F sv == some v)

end Narsese
