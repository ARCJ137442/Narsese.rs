/-
  Hash feed respects `sem`, and the hash-set based `==` of the code coincides with `sem`
  on values as hash sets build them (`built`: set-like components are duplicate-free modulo `sem`).
-/
import Proofs.SemLemmas
set_option autoImplicit false

namespace Narsese

theorem all2_map_eq {α β : Type} {R : α → α → Prop} (f : α → β) : ∀ {as bs : List α},
    (∀ a ∈ as, ∀ b ∈ bs, R a b → f a = f b) → All2 R as bs → as.map f = bs.map f
  | _, _, _, .nil => rfl
  | _, _, h, .cons r rest => by
    rw [List.map_cons, List.map_cons, h _ (.head _) _ (.head _) r,
      all2_map_eq f (fun a ha b hb => h a (.tail _ ha) b (.tail _ hb)) rest]

theorem all2_mem_right {α β : Type} {R : α → β → Prop} : ∀ {as : List α} {bs : List β}, All2 R as bs →
    ∀ a ∈ as, ∃ b ∈ bs, R a b
  | _, _, .nil, _, h => nomatch h
  | _, _, .cons r rest, a, h => by
    rcases List.mem_cons.mp h with rfl | h
    · exact ⟨_, .head _, r⟩
    · obtain ⟨b, hb, hab⟩ := all2_mem_right rest a h
      exact ⟨b, .tail _ hb, hab⟩

theorem all2_mem_left {α β : Type} {R : α → β → Prop} {as : List α} {bs : List β} (h : All2 R as bs) :
    ∀ b ∈ bs, ∃ a ∈ as, R a b :=
  all2_mem_right (All2.flip_of (S := fun b a => R a b) (fun _ _ _ r => r) h)

section Pigeon
variable {α : Type} (r : α → α → Bool)

/-- no two members of the list are related by `r` (each member against those behind it) -/
abbrev NoDupR (l : List α) : Prop := l.Pairwise (fun a b => r a b = false)

variable {r} (rsymm : ∀ x y, r x y = r y x) (rtrans : ∀ x y z, r x y = true → r y z = true → r x z = true)
include rsymm rtrans

/-- the pigeonhole argument: a duplicate-free list whose elements all have partners in `bs` is matched,
element by element, with the front part of a rearrangement of `bs` -/
theorem match_of_incl : ∀ (as bs : List α), NoDupR r as → (∀ x ∈ as, ∃ y ∈ bs, r x y = true) →
    ∃ l t, bs.Perm (l ++ t) ∧ All2 (fun x y => r x y = true) as l
  | [], bs, _, _ => ⟨[], bs, .refl _, .nil⟩
  | a :: as, bs, hd, hin => by
    obtain ⟨hda, hd⟩ := List.pairwise_cons.mp hd
    obtain ⟨b, hb, hab⟩ := hin a (.head _)
    obtain ⟨l₁, l₂, rfl⟩ := List.append_of_mem hb
    -- no other element of `as` needs this occurrence of `b`: it would be a duplicate of `a`
    have hin' : ∀ x ∈ as, ∃ y ∈ l₁ ++ l₂, r x y = true := fun x hx => by
      obtain ⟨y, hy, hxy⟩ := hin x (.tail _ hx)
      rcases List.mem_append.mp hy with h | h
      · exact ⟨y, List.mem_append_left _ h, hxy⟩
      · rcases List.mem_cons.mp h with rfl | h
        · have := rtrans a y x hab (rsymm x y ▸ hxy)
          rw [hda x hx] at this; cases this
        · exact ⟨y, List.mem_append_right _ h, hxy⟩
    obtain ⟨l, t, hp, hl⟩ := match_of_incl as (l₁ ++ l₂) hd hin'
    exact ⟨b :: l, t, List.perm_middle.trans (hp.cons b), .cons hab hl⟩

/-- with as many elements on both sides nothing of `bs` is left over -/
theorem match_of_incl_length (as bs : List α) (hd : NoDupR r as) (hin : ∀ x ∈ as, ∃ y ∈ bs, r x y = true)
    (hl : bs.length ≤ as.length) : ∃ l, bs.Perm l ∧ All2 (fun x y => r x y = true) as l := by
  obtain ⟨l, t, hp, h⟩ := match_of_incl rsymm rtrans as bs hd hin
  have := hp.length_eq
  have := h.length_eq
  rw [List.length_append] at *
  obtain rfl : t = [] := List.length_eq_zero_iff.mp (by omega)
  exact ⟨l, by simpa using hp, h⟩

theorem length_le_of_incl (as bs : List α) (hd : NoDupR r as) (hin : ∀ x ∈ as, ∃ y ∈ bs, r x y = true) :
    as.length ≤ bs.length := by
  obtain ⟨l, t, hp, h⟩ := match_of_incl rsymm rtrans as bs hd hin
  rw [hp.length_eq, List.length_append, ← h.length_eq]; omega

theorem match_of_sameSet (as bs : List α) (hda : NoDupR r as) (hdb : NoDupR r bs)
    (hs : SameSet (fun x y => r x y = true) as bs) : ∃ l, bs.Perm l ∧ All2 (fun x y => r x y = true) as l :=
  match_of_incl_length rsymm rtrans as bs hda hs.1 <|
    length_le_of_incl rsymm rtrans bs as hdb fun y hy => let ⟨x, hx, h⟩ := hs.2 y hy; ⟨x, hx, rsymm x y ▸ h⟩

theorem incl_onto (as bs : List α) (hda : NoDupR r as) (hl : as.length = bs.length)
    (hin : ∀ x ∈ as, ∃ y ∈ bs, r x y = true) : ∀ y ∈ bs, ∃ x ∈ as, r x y = true := by
  obtain ⟨l, hp, h⟩ := match_of_incl_length rsymm rtrans as bs hda hin (Nat.le_of_eq hl.symm)
  exact fun y hy => all2_mem_left h y (hp.mem_iff.mp hy)

end Pigeon

/-- `NoDupR sem` as a Bool (`nodupSem_iff`): what `built` asks of a set-like component list -/
def nodupSem : List Term → Bool
  | [] => true
  | a :: as => as.all (fun b => !sem a b) && nodupSem as

mutual
  /-- every set-like component list is duplicate-free modulo `sem` (what `HashSet` insertion guarantees) -/
  def built : Term → Bool
    | .setlike _ ts => builts ts && nodupSem ts.toList
    | .seqlike _ ts | .image _ _ ts => builts ts
    | .neg t => built t
    | .bin _ a b => built a && built b
    | _ => true
  def builts : Terms → Bool
    | .nil => true
    | .cons t ts => built t && builts ts
end

theorem nodupSem_iff (l : List Term) : nodupSem l = true ↔ NoDupR sem l := by
  induction l with
  | nil => simp [nodupSem]
  | cons a as ih => simp [nodupSem, ih]

theorem builts_mem : ∀ (ts : Terms) (t : Term), builts ts = true → t ∈ ts.toList → built t = true
  | .nil, _, _, h => by simp [Terms.toList] at h
  | .cons a as, t, hb, h => by
    simp only [builts, Bool.and_eq_true] at hb
    simp only [Terms.toList, List.mem_cons] at h
    rcases h with h | h
    · rw [h]; exact hb.1
    · exact builts_mem as t hb.2 h

/-- wrapping sum of a list: `feedSum` is `sumW` of the elements' hashes (`feedSum_eq`) -/
def sumW : List Nat → Nat
  | [] => 0
  | x :: xs => wrapAdd x (sumW xs)

theorem wrapAdd_comm (a b : Nat) : wrapAdd a b = wrapAdd b a := by simp [wrapAdd, Nat.add_comm]

theorem wrapAdd_assoc (a b c : Nat) : wrapAdd (wrapAdd a b) c = wrapAdd a (wrapAdd b c) := by
  simp only [wrapAdd, Nat.mod_add_mod, Nat.add_mod_mod, Nat.add_assoc]

theorem wrapAdd_left_comm (a b c : Nat) : wrapAdd a (wrapAdd b c) = wrapAdd b (wrapAdd a c) := by
  rw [← wrapAdd_assoc, wrapAdd_comm a b, wrapAdd_assoc]

theorem sumW_perm {l₁ l₂ : List Nat} (h : l₁.Perm l₂) : sumW l₁ = sumW l₂ := by
  induction h with
  | nil => rfl
  | cons x _ ih => simp only [sumW, ih]
  | swap x y l => simp only [sumW, wrapAdd_left_comm]
  | trans _ _ ih₁ ih₂ => exact ih₁.trans ih₂

theorem feedSum_eq (h0 : List Tok → Nat) : ∀ ts : Terms, feedSum h0 ts = sumW (ts.toList.map (fun t => h0 (feed h0 t)))
  | .nil => rfl
  | .cons t ts => by simp [feedSum, Terms.toList, sumW, feedSum_eq h0 ts]

theorem feedCat_eq (h0 : List Tok → Nat) : ∀ ts : Terms, feedCat h0 ts = (ts.toList.map (feed h0)).flatten
  | .nil => rfl
  | .cons t ts => by simp [feedCat, Terms.toList, feedCat_eq h0 ts]

/-- what C07 rests on: the hasher input is the same for EVERY element hasher `h0` -/
theorem feed_respects_sem (h0 : List Tok → Nat) : ∀ (a b : Term), built a = true → built b = true →
    sem a b = true → feed h0 a = feed h0 b := by
  intro a
  induction a using Term.induct with
  | atom k n => intro b _ _ h; rw [← sem_atom_iff.mp h]
  | placeholder => intro b _ _ h; rw [← sem_placeholder_iff.mp h]
  | interval n => intro b _ _ h; rw [← sem_interval_iff.mp h]
  | setlike k as ih =>
    intro b ha hb h
    obtain ⟨bs, rfl, hs⟩ := sem_setlike_iff.mp h
    simp only [built, Bool.and_eq_true] at ha hb
    -- the component lists match up to a rearrangement, which the wrapping sum does not see
    obtain ⟨l, hp, hl⟩ := match_of_sameSet sem_symm sem_trans as.toList bs.toList
      ((nodupSem_iff _).mp ha.2) ((nodupSem_iff _).mp hb.2) hs
    have hmap := all2_map_eq (fun t => h0 (feed h0 t)) (fun x hx y hy hxy =>
      congrArg h0 (ih x hx y (builts_mem as x ha.1 hx) (builts_mem bs y hb.1 (hp.mem_iff.mpr hy)) hxy)) hl
    simp only [feed, feedSum_eq, ← Terms.length_toList]
    rw [hl.length_eq, hp.length_eq, hmap, sumW_perm (hp.map _)]
  | seqlike k as ih =>
    intro b ha hb h
    obtain ⟨bs, rfl, hs⟩ := sem_seqlike_iff.mp h
    simp only [built] at ha hb
    simp only [feed, feedCat_eq]
    rw [all2_map_eq (feed h0) (fun x hx y hy => ih x hx y (builts_mem as x ha hx) (builts_mem bs y hb hy)) hs]
  | image k i as ih =>
    intro b ha hb h
    obtain ⟨bs, rfl, hs⟩ := sem_image_iff.mp h
    simp only [built] at ha hb
    simp only [feed, feedCat_eq]
    rw [all2_map_eq (feed h0) (fun x hx y hy => ih x hx y (builts_mem as x ha hx) (builts_mem bs y hb hy)) hs]
  | neg a ih =>
    intro b ha hb h
    obtain ⟨b', rfl, hs⟩ := sem_neg_iff.mp h
    exact ih b' ha hb hs
  | bin k a₁ a₂ ih₁ ih₂ =>
    intro b ha hb h
    obtain ⟨b₁, b₂, rfl, hs⟩ := sem_bin_iff.mp h
    simp only [built, Bool.and_eq_true] at ha hb
    rcases hs with ⟨h1, h2⟩ | ⟨hk, h1, h2⟩
    · simp only [feed, ih₁ b₁ ha.1 hb.1 h1, ih₂ b₂ ha.2 hb.2 h2]
    · simp only [feed, hk, if_true, ih₁ b₂ ha.1 hb.2 h1, ih₂ b₁ ha.2 hb.1 h2, wrapAdd_left_comm]

theorem allFound_iff (h0 : List Tok → Nat) : ∀ (as : Terms) (bs : List Term), allFound h0 as bs = true ↔
    ∀ a ∈ as.toList, ∃ b ∈ bs, feed h0 a = feed h0 b ∧ eqImpl h0 a b = true
  | .nil, bs => by simp [allFound, Terms.toList]
  | .cons a as, bs => by simp [allFound, Terms.toList, allFound_iff h0 as bs]

theorem eqZip_eq_zipL (h0 : List Tok → Nat) : ∀ (as : Terms) (bs : List Term),
    (∀ x ∈ as.toList, ∀ y ∈ bs, eqImpl h0 x y = sem x y) → eqZip h0 as bs = zipL as bs
  | .nil, [], _ => rfl
  | .nil, _ :: _, _ => rfl
  | .cons _ _, [], _ => rfl
  | .cons a as, b :: bs, h => by
    rw [eqZip, zipL, h a (.head _) b (.head _),
      eqZip_eq_zipL h0 as bs fun x hx y hy => h x (.tail _ hx) y (.tail _ hy)]

/-- what C06 rests on: `eqImpl` is the hand-written `PartialEq`, with `HashSet ==` looking elements up by hash -/
theorem eqImpl_eq_sem (h0 : List Tok → Nat) : ∀ (a b : Term), built a = true → built b = true →
    eqImpl h0 a b = sem a b := by
  intro a
  induction a using Term.induct with
  | atom k n => intro b _ _; cases b <;> rfl
  | placeholder => intro b _ _; cases b <;> rfl
  | interval n => intro b _ _; cases b <;> rfl
  | setlike k as ih =>
    intro b ha hb
    cases b with
    | setlike k' bs =>
      simp only [built, Bool.and_eq_true] at ha hb
      have ih' : ∀ x ∈ as.toList, ∀ y ∈ bs.toList, eqImpl h0 x y = sem x y := fun x hx y hy =>
        ih x hx y (builts_mem as x ha.1 hx) (builts_mem bs y hb.1 hy)
      have nda := (nodupSem_iff _).mp ha.2
      have ndb := (nodupSem_iff _).mp hb.2
      apply Bool.eq_iff_iff.mpr
      rw [sem_setlike_iff]
      simp only [eqImpl, Bool.and_eq_true, beq_iff_eq, allFound_iff, ← Terms.length_toList]
      constructor
      · -- every element found, equal lengths, no duplicates: the inclusion is onto (pigeonhole)
        rintro ⟨rfl, hl, hf⟩
        have hin : ∀ x ∈ as.toList, ∃ y ∈ bs.toList, sem x y = true := fun x hx =>
          let ⟨y, hy, _, he⟩ := hf x hx; ⟨y, hy, ih' x hx y hy ▸ he⟩
        exact ⟨bs, rfl, hin, incl_onto sem_symm sem_trans _ _ nda hl hin⟩
      · rintro ⟨_, e, hs⟩
        cases e
        obtain ⟨l, hp, hl⟩ := match_of_sameSet sem_symm sem_trans _ _ nda ndb hs
        refine ⟨rfl, hl.length_eq.trans hp.length_eq.symm, fun x hx => ?_⟩
        obtain ⟨y, hy, hxy⟩ := hs.1 x hx
        exact ⟨y, hy, feed_respects_sem h0 x y (builts_mem as x ha.1 hx) (builts_mem bs y hb.1 hy) hxy,
          (ih' x hx y hy).trans hxy⟩
    | _ => rfl
  | seqlike k as ih =>
    intro b ha hb
    cases b with
    | seqlike k' bs =>
      simp only [built] at ha hb
      simp only [eqImpl, sem]
      rw [eqZip_eq_zipL h0 as _ fun x hx y hy => ih x hx y (builts_mem as x ha hx) (builts_mem bs y hb hy)]
    | _ => rfl
  | image k i as ih =>
    intro b ha hb
    cases b with
    | image k' j bs =>
      simp only [built] at ha hb
      simp only [eqImpl, sem]
      rw [eqZip_eq_zipL h0 as _ fun x hx y hy => ih x hx y (builts_mem as x ha hx) (builts_mem bs y hb hy)]
    | _ => rfl
  | neg a ih =>
    intro b ha hb
    cases b with
    | neg b => exact ih b ha hb
    | _ => rfl
  | bin k a₁ a₂ ih₁ ih₂ =>
    intro b ha hb
    cases b with
    | bin k' b₁ b₂ =>
      simp only [built, Bool.and_eq_true] at ha hb
      simp only [eqImpl, sem, ih₁ b₁ ha.1 hb.1, ih₂ b₂ ha.2 hb.2, ih₁ b₂ ha.1 hb.2, ih₂ b₁ ha.2 hb.1]
    | _ => rfl

theorem eqImpls_eq_sem (h0 : List Tok → Nat) : ∀ (as : Terms) (a : Term), a ∈ as.toList → ∀ b,
    built a = true → built b = true → eqImpl h0 a b = sem a b :=
  fun _ a _ b => eqImpl_eq_sem h0 a b

theorem lookupSet_eq (h0 : List Tok → Nat) (s : List Term) (x : Term)
    (hs : ∀ y ∈ s, built y = true) (hx : built x = true) :
    lookupSet h0 s x = s.any (fun y => sem y x) := by
  unfold lookupSet
  apply Bool.eq_iff_iff.mpr
  simp only [List.any_eq_true, Bool.and_eq_true, decide_eq_true_eq]
  constructor
  · rintro ⟨y, hy, _, he⟩
    exact ⟨y, hy, eqImpl_eq_sem h0 y x (hs y hy) hx ▸ he⟩
  · rintro ⟨y, hy, he⟩
    exact ⟨y, hy, feed_respects_sem h0 y x (hs y hy) hx he, (eqImpl_eq_sem h0 y x (hs y hy) hx).trans he⟩

end Narsese
