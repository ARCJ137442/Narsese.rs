/-
  Decimal text of `usize` and `isize`: which strings `parseUsize` reads, and printing then reading is the identity.
-/
import NarseseModel.Num
set_option autoImplicit false

namespace Narsese

theorem digit_facts : ∀ d : Fin 10, digitVal (digitChar d) = d ∧ isDigit (digitChar d) = true := by
  decide +kernel

theorem digitsVal_cons (a : Nat) (c : Char) (cs : Str) : digitsVal a (c :: cs) = digitsVal (a * 10 + digitVal c) cs := rfl

theorem digitVal_digitChar (d : Nat) (h : d < 10) : digitVal (digitChar d) = d := (digit_facts ⟨d, h⟩).1
theorem isDigit_digitChar (d : Nat) (h : d < 10) : isDigit (digitChar d) = true := (digit_facts ⟨d, h⟩).2

theorem digitsVal_append : ∀ (s t : Str) (a : Nat), digitsVal a (s ++ t) = digitsVal (digitsVal a s) t
  | [], _, _ => rfl
  | _ :: s, t, _ => digitsVal_append s t _

/-- the digit loop puts in front of `acc` a non-empty string of digit characters that denotes `n` -/
theorem natDigitsAux_eq : ∀ (fuel n : Nat) (acc : Str), n < fuel →
    ∃ ds, natDigitsAux fuel n acc = ds ++ acc ∧ ds ≠ [] ∧ (∀ c ∈ ds, ∃ d, d < 10 ∧ c = digitChar d) ∧
      ∀ a, digitsVal a ds = a * 10 ^ ds.length + n
  | 0, n, acc, h => by omega
  | fuel + 1, n, acc, h => by
    unfold natDigitsAux
    split
    · next hlt =>
      refine ⟨[digitChar n], rfl, nofun, fun c hc => ⟨n, hlt, List.mem_singleton.mp hc⟩, fun a => ?_⟩
      rw [digitsVal_cons, digitVal_digitChar n hlt]
      simp [digitsVal]
    · have hlt : n % 10 < 10 := Nat.mod_lt _ (by decide)
      obtain ⟨ds, he, _, hc, hv⟩ := natDigitsAux_eq fuel (n / 10) (digitChar (n % 10) :: acc) (by omega)
      refine ⟨ds ++ [digitChar (n % 10)], by rw [he]; simp, by simp, fun c hc' => ?_, fun a => ?_⟩
      · rcases List.mem_append.mp hc' with h | h
        · exact hc c h
        · exact ⟨n % 10, hlt, List.mem_singleton.mp h⟩
      · rw [digitsVal_append, hv, digitsVal_cons, digitVal_digitChar _ hlt]
        simp only [digitsVal, List.length_append, List.length_singleton, Nat.pow_succ]
        rw [Nat.add_mul, Nat.mul_assoc]
        omega

theorem showNat_chars (n : Nat) : ∀ c ∈ showNat n, ∃ d, d < 10 ∧ c = digitChar d := by
  obtain ⟨ds, he, -, hc, -⟩ := natDigitsAux_eq (n + 1) n [] (by omega)
  rw [showNat, he, List.append_nil]
  exact hc

theorem showNat_spec (n : Nat) :
    digitsVal 0 (showNat n) = n ∧ allDigits (showNat n) = true ∧ ∃ c r, showNat n = c :: r ∧ isDigit c = true := by
  obtain ⟨ds, he, hne, -, hv⟩ := natDigitsAux_eq (n + 1) n [] (by omega)
  have hd : ∀ c ∈ showNat n, isDigit c = true := fun c h => by
    obtain ⟨d, hd, rfl⟩ := showNat_chars n c h
    exact isDigit_digitChar d hd
  rw [List.append_nil] at he
  refine ⟨by rw [showNat, he, hv]; simp, List.all_eq_true.mpr hd, ?_⟩
  cases hs : showNat n with
  | nil => exact absurd (he ▸ hs) hne
  | cons c r => exact ⟨c, r, rfl, hd c (hs ▸ .head _)⟩

theorem allDigits_head {c : Char} {r : Str} (h : allDigits (c :: r) = true) : c ≠ '+' ∧ c ≠ '-' := by
  have hc : isDigit c = true := (Bool.and_eq_true_iff.mp (List.all_cons.symm.trans h)).1
  constructor <;> rintro rfl <;> cases hc

/-- the digit-string part of `parseUsize`, whichever way the sign was removed -/
theorem digits_some_iff (ds : Str) (k : Nat) :
    (if (ds.isEmpty || !allDigits ds) = true then none
      else if digitsVal 0 ds < 2 ^ usizeBits then some (digitsVal 0 ds) else none) = some k ↔
    ds ≠ [] ∧ allDigits ds = true ∧ digitsVal 0 ds = k ∧ k < 2 ^ usizeBits := by
  cases ds with
  | nil => simp
  | cons c cs =>
    cases hd : allDigits (c :: cs)
    · simp
    · simp only [List.isEmpty_cons, Bool.not_true, Bool.or_self, Bool.false_eq_true, if_false, ne_eq, reduceCtorEq,
        not_false_eq_true, true_and]
      by_cases hv : digitsVal 0 (c :: cs) < 2 ^ usizeBits
      · rw [if_pos hv]; exact ⟨fun h => Option.some.inj h ▸ ⟨rfl, hv⟩, fun h => h.1 ▸ rfl⟩
      · rw [if_neg hv]; exact ⟨nofun, fun h => absurd (h.1 ▸ h.2) hv⟩

theorem parseUsize_eq_some_iff (s : Str) (k : Nat) :
    parseUsize s = some k ↔
      ∃ ds, (s = ds ∨ s = '+' :: ds) ∧ ds ≠ [] ∧ allDigits ds = true ∧ digitsVal 0 ds = k ∧ k < 2 ^ usizeBits := by
  unfold parseUsize
  split
  · next r =>
    rw [digits_some_iff]
    refine ⟨fun h => ⟨r, .inr rfl, h⟩, ?_⟩
    rintro ⟨ds, hs | hs, h⟩
    · exact absurd rfl (allDigits_head (hs ▸ h.2.1)).1
    · cases hs; exact h
  · next hne =>
    rw [digits_some_iff]
    refine ⟨fun h => ⟨s, .inl rfl, h⟩, ?_⟩
    rintro ⟨ds, hs | hs, h⟩
    · exact hs ▸ h
    · exact absurd hs (hne ds)

/-- `usize::to_string` then `str::parse::<usize>` is the identity on machine words -/
theorem parseUsize_showNat (n : Nat) (h : n < 2 ^ 64) : parseUsize (showNat n) = some n := by
  obtain ⟨hv, hd, c, r, hs, -⟩ := showNat_spec n
  exact (parseUsize_eq_some_iff _ _).mpr ⟨_, .inl rfl, hs ▸ List.cons_ne_nil c r, hd, hv, h⟩

theorem parseIsize_of_digits {s : Str} (hne : s ≠ []) (hd : allDigits s = true) :
    parseIsize s = if digitsVal 0 s < 2 ^ (usizeBits - 1) then some (Int.ofNat (digitsVal 0 s)) else none := by
  obtain ⟨c, r, rfl⟩ := List.exists_cons_of_ne_nil hne
  have hc := allDigits_head hd
  unfold parseIsize
  split
  · next ds heq => exact absurd (List.cons.inj heq).1 hc.2
  · split
    · next r' heq => exact absurd (List.cons.inj heq).1 hc.1
    · simp [hd]

theorem parseIsize_neg (ds : Str) (hne : ds.isEmpty = false) (hd : allDigits ds = true) :
    parseIsize ('-' :: ds) = if digitsVal 0 ds ≤ 2 ^ (usizeBits - 1) then some (- Int.ofNat (digitsVal 0 ds)) else none := by
  simp [parseIsize, hne, hd]

/-- `isize::to_string` then `str::parse::<isize>` is the identity on `[-2^63, 2^63)` -/
theorem parseIsize_showInt (i : Int) (h1 : -(2 ^ 63 : Int) ≤ i) (h2 : i < 2 ^ 63) : parseIsize (showInt i) = some i := by
  cases i with
  | ofNat n =>
    obtain ⟨hv, hd, c, r, hs, hc⟩ := showNat_spec n
    have hn : n < 2 ^ 63 := by
      have : (n : Int) < 2 ^ 63 := h2
      exact_mod_cast this
    simp only [showInt]
    rw [parseIsize_of_digits (hs ▸ List.cons_ne_nil c r) hd, hv]
    simp [usizeBits, hn]
  | negSucc n =>
    obtain ⟨hv, hd, c, r, hs, hc⟩ := showNat_spec (n + 1)
    have hn : n + 1 ≤ 2 ^ 63 := by
      have : -(2 ^ 63 : Int) ≤ Int.negSucc n := h1
      rw [Int.negSucc_eq] at this
      have : ((n : Int) + 1) ≤ 2 ^ 63 := by omega
      exact_mod_cast this
    simp only [showInt]
    rw [parseIsize_neg _ (by rw [hs]; rfl) hd, hv]
    have hn' : n + 1 ≤ 2 ^ (usizeBits - 1) := by simpa [usizeBits] using hn
    rw [if_pos hn', Int.negSucc_eq]
    simp

def digitChars : Str := (List.range 10).map digitChar

theorem digit_mem (d : Nat) (h : d < 10) : digitChar d ∈ digitChars := by
  simp only [digitChars, List.mem_map, List.mem_range]
  exact ⟨d, h, rfl⟩

theorem isDigit_digitChars (c : Char) (h : isDigit c = true) : c ∈ digitChars := by
  simp only [isDigit, Bool.and_eq_true, decide_eq_true_eq] at h
  have h1 : 48 ≤ c.toNat := h.1
  have h2 : c.toNat ≤ 57 := h.2
  have e : '0'.toNat + (c.toNat - 48) = c.toNat := by show 48 + (c.toNat - 48) = c.toNat; omega
  have := digit_mem (c.toNat - 48) (by omega)
  rwa [digitChar, e, Char.ofNat_toNat] at this

/-! ### printed numbers -/

theorem readNum_ok (x : Num) (h : x.ok = true) : readNum x.text = some x := by
  simp only [Num.ok, Bool.and_eq_true, beq_iff_eq] at h
  simp [readNum, h.2]

theorem readNum_texts : ∀ (xs : List Num), (∀ x ∈ xs, x.ok = true) → (xs.map (·.text)).filterMap readNum = xs
  | [], _ => rfl
  | x :: xs, h => by
    rw [List.map_cons, List.filterMap_cons_some (readNum_ok x (h x List.mem_cons_self)),
      readNum_texts xs fun y hy => h y (List.mem_cons_of_mem _ hy)]

theorem texts_inj {xs ys : List Num} (hx : ∀ x ∈ xs, x.ok = true) (hy : ∀ y ∈ ys, y.ok = true)
    (h : xs.map (·.text) = ys.map (·.text)) : xs = ys := by
  rw [← readNum_texts xs hx, h, readNum_texts ys hy]

theorem in01_of_ok {x : Num} (h : x.ok = true) : x.in01 = true := by
  simp only [Num.ok, Bool.and_eq_true] at h
  exact h.1.1.1


end Narsese
