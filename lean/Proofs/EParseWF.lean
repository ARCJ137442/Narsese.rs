/-
  Every `Ok` of the enum parser model is well-formed (C12), for EVERY input string and format record:
  atom names non-empty, no empty compound or set, image index within its components, truth / budget
  numbers in [0,1]. (Arity of negation and of the two differences is structural in the model.)
-/
import Proofs.SetBuild
import Proofs.EItems
import Proofs.CursorLemmas
import Props.C04
import Props.C10a
set_option autoImplicit false

namespace Narsese
open EFormat

mutual
  def wfOut : Term → Bool
    | .atom _ n => !n.isEmpty
    | .placeholder => true
    | .interval _ => true
    | .setlike _ ts => !ts.isEmpty && wfOuts ts
    | .seqlike _ ts => !ts.isEmpty && wfOuts ts
    | .image _ i ts => decide (i ≤ ts.length) && wfOuts ts
    | .neg t => wfOut t
    | .bin _ a b => wfOut a && wfOut b
  def wfOuts : Terms → Bool
    | .nil => true
    | .cons t ts => wfOut t && wfOuts ts
end

theorem wfOuts_ofList (l : List Term) : wfOuts (Terms.ofList l) = l.all wfOut := by
  induction l with
  | nil => rfl
  | cons t ts ih => simp [Terms.ofList, wfOuts, ih]

theorem extractPlaceholder_spec (ts : List Term) (i : Nat) (ts' : List Term) (h : extractPlaceholder ts = some (i, ts')) :
    i ≤ ts'.length ∧ ∀ x ∈ ts', x ∈ ts := by
  obtain ⟨pre, post, rfl, -, rfl, rfl⟩ := Props.C10.extract_shape ts i ts' h
  refine ⟨by simp, fun x hx => ?_⟩
  rcases List.mem_append.mp hx with hx | hx
  · exact List.mem_append_left _ hx
  · exact List.mem_append_right _ (.tail _ hx)

/-- what the term parsers return: a well-formed term (nothing is claimed of the fuel) -/
abbrev WfRes (r : PRes (Term × Cur)) : Prop := r.Sat (fun p => wfOut p.1 = true) False

theorem wfOut_mkSet (k : SetK) {ts : List Term} (hne : ts ≠ []) (hts : ts.all wfOut = true) :
    wfOut (.setlike k (Terms.ofList (mkSetSem ts))) = true := by
  simp only [wfOut, Terms.isEmpty_ofList, wfOuts_ofList, Bool.and_eq_true, Bool.not_eq_true', List.isEmpty_eq_false_iff]
  exact ⟨mkSetSem_ne_nil hne, mkSetSem_all wfOut ts hts⟩

theorem parseAtom_wfs (F : EFormat) (c : Cur) : WfRes (F.parseAtom c) := by
  unfold parseAtom
  split
  · exact .raise c
  · next pre hd _ =>
    dsimp only
    generalize F.scanName (c.skip pre).rest = sn
    obtain ⟨name, rest'⟩ := sn
    cases hd with
    | placeholder => exact .ok rfl
    | interval =>
      refine .ite (fun _ => .raise _) fun _ => ?_
      split
      · exact .ok rfl
      · exact .raise _
    | named k =>
      exact .ite (fun _ => .raise _) fun hne => .ok (show wfOut (Term.atom k name) = true by simpa [wfOut] using hne)

theorem copBuild_wf (ck : CopK) (s p : Term) (hs : wfOut s = true) (hp : wfOut p = true) :
    wfOut (ck.build s p) = true := by
  cases ck <;> simp [CopK.build, wfOut, wfOuts, Terms.isEmpty, hs, hp]

theorem finishCompound_wfs (F : EFormat) (ck : ConnK) (ts : List Term) (c3 : Cur)
    (hne : ts ≠ []) (hts : ts.all wfOut = true) : WfRes (F.finishCompound ck ts c3) := by
  unfold finishCompound
  cases ck with
  | operatorUnsupported => exact .raise _
  | set k => exact .ok (wfOut_mkSet k hne hts)
  | seq k =>
    refine .ok ?_
    simp only [wfOut, Terms.isEmpty_ofList, wfOuts_ofList, Bool.and_eq_true, Bool.not_eq_true', List.isEmpty_eq_false_iff]
    exact ⟨hne, hts⟩
  | img k =>
    dsimp only
    split
    · next i ts' hex =>
      have sp := extractPlaceholder_spec ts i ts' hex
      refine .ok ?_
      simp only [wfOut, Terms.length_ofList, wfOuts_ofList, Bool.and_eq_true, decide_eq_true_eq]
      refine ⟨sp.1, ?_⟩
      rw [List.all_eq_true] at hts ⊢
      exact fun x hx => hts x (sp.2 x hx)
    · exact .raise _
  | _ =>
    -- negation and difference: the components themselves, once their number has been tested
    dsimp only
    split
    · exact .ok (by simpa [wfOut] using hts)
    · exact .raise _

mutual
  theorem parseTerm_wfs (F : EFormat) : ∀ (fuel : Nat) (c : Cur), WfRes (F.parseTerm fuel c)
    | 0, _ => .fuel id
    | fuel + 1, c => by
      unfold parseTerm
      exact .ite (fun _ => parseTermSet_wfs F fuel _ _ _ c) fun _ => .ite (fun _ => parseTermSet_wfs F fuel _ _ _ c) fun _ =>
        .ite (fun _ => parseCompound_wfs F fuel c) fun _ => .ite (fun _ => parseStatement_wfs F fuel c) fun _ =>
        parseAtom_wfs F c

  theorem parseTerms_wfs (F : EFormat) : ∀ (fuel : Nat) (rb : Str) (c : Cur) (acc : List Term),
      acc.all wfOut = true → (F.parseTerms fuel rb c acc).Sat (fun p => p.1.all wfOut = true) False
    | 0, _, _, _, _ => .fuel id
    | fuel + 1, rb, c, acc, hacc => by
      unfold parseTerms
      refine .ite (fun _ => .ok hacc) fun _ => .ite (fun _ => parseTerms_wfs F fuel rb _ acc hacc) fun _ =>
        .ite (fun _ => parseTerms_wfs F fuel rb _ acc hacc) fun _ => .ite (fun _ => .ok hacc) fun _ => ?_
      exact (parseTerm_wfs F fuel c).elim
        (fun p ht => parseTerms_wfs F fuel rb p.2 (acc ++ [p.1]) (by simpa [hacc] using ht)) .err .fuel

  theorem parseTermSet_wfs (F : EFormat) : ∀ (fuel : Nat) (k : SetK) (lb rb : Str) (c : Cur),
      WfRes (F.parseTermSet fuel k lb rb c)
    | 0, _, _, _, _ => .fuel id
    | fuel + 1, k, lb, rb, c => by
      unfold parseTermSet
      exact (parseTerms_wfs F fuel rb (F.skipAndSpaces c lb) [] rfl).elim
        (fun p hts => .ite (fun _ => .raise _) fun hne => .ok (wfOut_mkSet k (by simpa using hne) hts))
        .err .fuel

  theorem parseCompound_wfs (F : EFormat) : ∀ (fuel : Nat) (c : Cur), WfRes (F.parseCompound fuel c)
    | 0, _ => .fuel id
    | fuel + 1, c => by
      unfold parseCompound
      dsimp only
      split
      · exact .raise _
      · next kw ck _ =>
        refine .ite (fun _ => .raise _) fun _ => ?_
        exact (parseTerms_wfs F fuel F.compR ((F.skipAndSpaces c F.compL).skip kw) [] rfl).elim
          (fun p hts => .ite (fun _ => .raise _) fun hne => finishCompound_wfs F ck p.1 p.2 (by simpa using hne) hts)
          .err .fuel

  theorem parseStatement_wfs (F : EFormat) : ∀ (fuel : Nat) (c : Cur), WfRes (F.parseStatement fuel c)
    | 0, _ => .fuel id
    | fuel + 1, c => by
      unfold parseStatement
      refine (parseTerm_wfs F fuel (F.skipAndSpaces c F.stmtL)).elim ?_ .err .fuel
      rintro ⟨subj, c1⟩ hs
      dsimp only
      split
      · exact .raise _
      · next kw ck _ =>
        exact (parseTerm_wfs F fuel (F.skipSpaces ((F.skipSpaces c1).skip kw))).elim
          (fun p hp => .ok (copBuild_wf ck subj p.1 hs hp)) .err .fuel
end

theorem parseTerm_wf (F : EFormat) (fuel : Nat) (c : Cur) (t : Term) (c' : Cur)
    (h : F.parseTerm fuel c = .ok (t, c')) : wfOut t = true := (h ▸ parseTerm_wfs F fuel c).of_ok

theorem parseTerms_wf (F : EFormat) : ∀ (fuel : Nat) (rb : Str) (c : Cur) (acc ts : List Term) (c' : Cur),
    acc.all wfOut = true → F.parseTerms fuel rb c acc = .ok (ts, c') → ts.all wfOut = true :=
  fun fuel rb c acc _ _ hacc h => (h ▸ parseTerms_wfs F fuel rb c acc hacc).of_ok

theorem parseTermSet_wf (F : EFormat) : ∀ (fuel : Nat) (k : SetK) (lb rb : Str) (c : Cur) (t : Term) (c' : Cur),
    F.parseTermSet fuel k lb rb c = .ok (t, c') → wfOut t = true :=
  fun fuel k lb rb c _ _ h => (h ▸ parseTermSet_wfs F fuel k lb rb c).of_ok

theorem parseCompound_wf (F : EFormat) : ∀ (fuel : Nat) (c : Cur) (t : Term) (c' : Cur),
    F.parseCompound fuel c = .ok (t, c') → wfOut t = true :=
  fun fuel c _ _ h => (h ▸ parseCompound_wfs F fuel c).of_ok

theorem parseStatement_wf (F : EFormat) : ∀ (fuel : Nat) (c : Cur) (t : Term) (c' : Cur),
    F.parseStatement fuel c = .ok (t, c') → wfOut t = true :=
  fun fuel c _ _ h => (h ▸ parseStatement_wfs F fuel c).of_ok

def truthOK (t : Truth) : Bool := t.components.all Num.in01
def budgetOK (b : Budget) : Bool := b.components.all Num.in01

theorem parseFloats_safe (F : EFormat) (N : Nat) (sep rb : Str) : ∀ (fuel : Nat) (c : Cur) (buf : Str) (acc : List Num),
    (F.parseFloats N sep rb fuel c buf acc).Sat (fun _ => True) False
  | 0, _, _, _ => .fuel id
  | fuel + 1, c, buf, acc => by
    unfold parseFloats
    refine .ite (fun _ => .ok trivial) fun _ => ?_
    split
    · exact .ok trivial
    · refine .ite (fun _ => parseFloats_safe F N sep rb fuel _ _ _) fun _ =>
        .ite (fun _ => parseFloats_safe F N sep rb fuel _ _ _) fun _ => .ite (fun _ => ?_) fun _ =>
        .ite (fun _ => ?_) fun _ => .raise _
      · split
        · exact parseFloats_safe F N sep rb fuel _ _ _
        · exact .raise _
      · split <;> exact .ok trivial

theorem readItem_range {α : Type} (F : EFormat) (N : Nat) (lb sep rb : Str) (mk : List Num → α) (post : α → Prop)
    (hmk : ∀ xs, xs.all Num.in01 = true → post (mk xs)) (c : Cur) :
    (F.readItem N lb sep rb mk c).Sat (fun p => post p.1) False := by
  unfold readItem
  exact (parseFloats_safe F N sep rb _ _ [] []).elim
    (fun p _ => .ite (fun h => .ok (hmk p.1 h)) fun _ => .raise _) .err .fuel

theorem consumeTruth_range (F : EFormat) (c : Cur) : (F.consumeTruth c).Sat (fun p => truthOK p.1 = true) False := by
  rw [consumeTruth_eq]
  refine readItem_range F _ _ _ _ _ (fun t => truthOK t = true) (fun xs h => ?_) c
  unfold truthOK
  rw [Truth.components_ofList]
  exact all_take _ _ _ h

theorem consumeBudget_range (F : EFormat) (c : Cur) : (F.consumeBudget c).Sat (fun p => budgetOK p.1 = true) False := by
  rw [consumeBudget_eq]
  refine readItem_range F _ _ _ _ _ (fun b => budgetOK b = true) (fun xs h => ?_) c
  unfold budgetOK
  rw [Budget.components_ofList]
  exact all_take _ _ _ h

def MidWF (m : Mid) : Prop :=
  (∀ t, m.term = some t → wfOut t = true) ∧ (∀ x, m.truth = some x → truthOK x = true) ∧
  (∀ b, m.budget = some b → budgetOK b = true)

theorem consumeOne_wf (F : EFormat) (c : Cur) (m : Mid) (hm : MidWF m) :
    (F.consumeOne c m).Sat (fun p => MidWF p.2) False := by
  unfold consumeOne
  refine .ite (fun _ => .ok hm) fun _ => ?_
  refine alt_sat _ _ (liftStep_sat _ (consumeBudget_range F c) fun b _ hb => ?_) fun _ =>
    alt_sat _ _ (liftStep_sat _ (parseTerm_wfs F _ c) fun t _ ht => ?_) fun _ =>
    alt_sat _ _ (liftStep_sat _ (Props.C04.consumePunct_safe F c) fun _ _ _ => hm) fun _ =>
    alt_sat _ _ (liftStep_sat _ (Props.C04.consumeStamp_safe F c) fun _ _ _ => hm) fun _ =>
    alt_sat _ _ (liftStep_sat _ (consumeTruth_range F c) fun x _ hx => ?_) fun _ => .raise _
  · exact ⟨hm.1, hm.2.1, fun b' hb' => Option.some.inj hb' ▸ hb⟩
  · exact ⟨fun t' ht' => Option.some.inj ht' ▸ ht, hm.2.1, hm.2.2⟩
  · exact ⟨hm.1, fun x' hx' => Option.some.inj hx' ▸ hx, hm.2.2⟩

theorem buildMid_wf (F : EFormat) : ∀ (fuel : Nat) (c : Cur) (m : Mid),
    MidWF m → (F.buildMid fuel c m).Sat (fun p => MidWF p.2) False
  | 0, _, _, _ => .fuel id
  | fuel + 1, c, m, hm => by
    unfold buildMid
    refine .ite (fun _ => .ok hm) fun _ => .ite (fun _ => .ok hm) fun _ => ?_
    exact (consumeOne_wf F (F.skipSpaces c) m hm).elim (fun p hm2 => buildMid_wf F fuel p.1 p.2 hm2) .err .fuel

def sentenceWF (s : Sentence) : Bool := wfOut s.term && truthOK s.truthOrEmpty
/-- well-formedness of a parsed value -/
def narseseWF : Narsese → Bool
  | .term t => wfOut t
  | .sentence s => sentenceWF s
  | .task k => sentenceWF k.sentence && budgetOK k.budget

theorem Mid.form_wf {m : Mid} {t : Term} (hm : MidWF m) (ht : m.term = some t) : narseseWF (m.form t).1 = true := by
  have hwt := hm.1 t ht
  have htr : truthOK (m.truth.getD .empty) = true := by
    cases hx : m.truth with
    | none => rfl
    | some x => exact hm.2.1 x hx
  have hs := fun p => Sentence.fromPunctuation_and wfOut truthOK rfl p (m.stamp.getD .eternal) hwt htr
  unfold Mid.form
  split
  · exact hwt
  · exact hs _
  · next b _ hb => exact Bool.and_eq_true_iff.mpr ⟨hs _, hm.2.2 b hb⟩

theorem eparse_wf (F : EFormat) (input : Str) (v : Narsese) (h : F.eparse input = .ok v) : narseseWF v = true := by
  unfold eparse runState at h
  revert h
  refine (buildMid_wf F (midFuel (Cur.ofEnv input)) (Cur.ofEnv input) {} ⟨nofun, nofun, nofun⟩).elim ?_
    nofun nofun
  rintro ⟨c, m⟩ (hm : MidWF m)
  dsimp only
  rw [transformMid_eq]
  cases ht : m.term with
  | none => nofun
  | some t =>
    intro h
    cases h
    exact Mid.form_wf hm ht

end Narsese
