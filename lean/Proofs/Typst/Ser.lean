/-
  The token serialization `ser` of a term: the word list of its rendering, written as a structural recursion.
  With it the layout condition on the markup constants (`typstLayoutB`: which of them begin and end with
  whitespace), the terms the development speaks of (`wfTy`), and how `words` distributes over such a constant.
-/
import Proofs.Typst.Words
import Proofs.Spelling.FormatOK
set_option autoImplicit false

namespace Narsese
open TypstConsts

def spacedB (C : TypstConsts) (k : Str) : Bool :=
  k.head?.any C.isWs && k.getLast?.any C.isWs
def endsWsB (C : TypstConsts) (k : Str) : Bool := k.isEmpty || k.getLast?.any C.isWs

def typstSpacedList (C : TypstConsts) : List Str :=
  [C.brCompound.1, C.brCompound.2, C.brExtSet.1, C.brExtSet.2, C.brIntSet.1, C.brIntSet.2,
   C.brStatement.1, C.brStatement.2, C.sepCompound,
   C.cExtInt, C.cIntInt, C.cExtDiff, C.cIntDiff, C.cProduct, C.cExtImg, C.cIntImg, C.cConj, C.cDisj, C.cNeg,
   C.cSeqConj, C.cParConj,
   C.copInh, C.copSim, C.copImpl, C.copEquiv, C.copImplPred, C.copImplConc, C.copImplRetro, C.copEquivPred,
   C.copEquivConc]

def typstPrefixList (C : TypstConsts) : List Str :=
  [C.preWord, C.prePlaceholder, C.preIVar, C.preDVar, C.preQVar, C.preInterval, C.preOperator]

/-- decidable: the layout facts about the markup constants the word-level analysis needs -/
def typstLayoutB (C : TypstConsts) : Bool :=
  (typstSpacedList C).all (spacedB C) && (typstPrefixList C).all (endsWsB C) && !C.isWs '"' && C.sepStatement.isEmpty

/-- a name whose `Debug` form is the name in double quotes, without whitespace -/
def tyNameOK (C : TypstConsts) (n : Str) : Bool := n.all (fun c => inRanges C.dbgIdentTbl c && !C.isWs c)

mutual
  /-- terms whose names are plain (`tyNameOK`) and whose compounds are non-empty -/
  def wfTy (C : TypstConsts) : Term → Bool
    | .atom _ n => tyNameOK C n
    | .placeholder => true
    | .interval n => decide (n < 2 ^ 64)
    | .setlike _ ts => !ts.isEmpty && wfTys C ts
    | .seqlike _ ts => !ts.isEmpty && wfTys C ts
    | .image _ i ts => decide (i ≤ ts.length) && wfTys C ts && noPh ts
    | .neg t => wfTy C t
    | .bin _ a b => wfTy C a && wfTy C b
  def wfTys (C : TypstConsts) : Terms → Bool
    | .nil => true
    | .cons t ts => wfTy C t && wfTys C ts
end

/-- intercalate a token list between token lists -/
def joinToks (sep : List Str) : List (List Str) → List Str
  | [] => []
  | [x] => x
  | x :: xs => x ++ sep ++ joinToks sep xs

/-- word list of `template_compound` given the word lists of the components -/
def serCompound (C : TypstConsts) (br : Str × Str) (conn : Str) (comps : List (List Str)) : List Str :=
  C.words br.1 ++
  ((if conn.isEmpty then joinToks (C.words C.sepCompound) comps
    else if comps.length = 2 then joinToks (C.words conn) comps
    else C.words conn ++ (C.words C.sepCompound ++ joinToks (C.words C.sepCompound) comps)) ++
  C.words br.2)

mutual
  def ser (C : TypstConsts) : Term → List Str
    | .atom k n => C.words (C.atomFeature k) ++ [C.dbg n]
    | .placeholder => C.words C.prePlaceholder ++ [C.dbg []]
    | .interval n => C.words C.preInterval ++ [C.dbg (showNat n)]
    | .setlike k ts => serCompound C (C.setBrackets k) (C.setFeature k) (sers C ts)
    | .seqlike k ts =>
        serCompound C C.brCompound (match k with | .product => C.cProduct | .seqConj => C.cSeqConj) (sers C ts)
    | .image k i ts =>
        serCompound C C.brCompound (match k with | .ext => C.cExtImg | .int => C.cIntImg) (serImage C i 0 ts)
    | .neg t => serCompound C C.brCompound C.cNeg [ser C t]
    | .bin k a b =>
        if k.isStatement then
          C.words C.brStatement.1 ++ (ser C a ++ (C.words (C.binFeature k) ++ (ser C b ++ C.words C.brStatement.2)))
        else serCompound C C.brCompound (C.binFeature k) [ser C a, ser C b]
  def sers (C : TypstConsts) : Terms → List (List Str)
    | .nil => []
    | .cons t ts => ser C t :: sers C ts
  def serImage (C : TypstConsts) (idx : Nat) : Nat → Terms → List (List Str)
    | now, .nil => if now = idx then [C.words C.prePlaceholder ++ [C.dbg []]] else []
    | now, .cons t ts =>
      if now = idx then (C.words C.prePlaceholder ++ [C.dbg []]) :: ser C t :: serImage C idx (now + 2) ts
      else ser C t :: serImage C idx (now + 1) ts
end

structure LayoutFacts (C : TypstConsts) : Prop where
  spaced : ∀ k ∈ typstSpacedList C, spacedB C k = true
  brCompound : spacedB C C.brCompound.1 = true ∧ spacedB C C.brCompound.2 = true
  brExtSet : spacedB C C.brExtSet.1 = true ∧ spacedB C C.brExtSet.2 = true
  brIntSet : spacedB C C.brIntSet.1 = true ∧ spacedB C C.brIntSet.2 = true
  brStatement : spacedB C C.brStatement.1 = true ∧ spacedB C C.brStatement.2 = true
  sepCompound : spacedB C C.sepCompound = true
  pre : ∀ k ∈ typstPrefixList C, endsWsB C k = true
  quote : C.isWs '"' = false
  sepStatement : C.sepStatement = []

theorem typstTerms_eq (C : TypstConsts) : ∀ ts : Terms, C.typstTerms ts = ts.toList.map C.typstTerm
  | .nil => rfl
  | .cons t ts => by rw [typstTerms, typstTerms_eq C ts]; rfl

theorem sers_eq (C : TypstConsts) : ∀ ts : Terms, sers C ts = ts.toList.map (ser C)
  | .nil => rfl
  | .cons t ts => by rw [sers, sers_eq C ts]; rfl

/-- a list built along `ImageIterator` (placeholder put in at `idx`) is a map over `imageIter` -/
theorem image_eq_map {β : Type} (g : Term → β) (idx : Nat) (F : Nat → Terms → List β)
    (hnil : ∀ now, F now .nil = if now = idx then [g .placeholder] else [])
    (hcons : ∀ now t ts, F now (.cons t ts) =
      if now = idx then g .placeholder :: g t :: F (now + 2) ts else g t :: F (now + 1) ts) :
    ∀ (now : Nat) (ts : Terms), F now ts = (imageIter idx now ts.toList).map g
  | now, .nil => by rw [hnil, Terms.toList, imageIter]; split <;> rfl
  | now, .cons t ts => by
    rw [hcons, Terms.toList, imageIter]
    split
    · rw [image_eq_map g idx F hnil hcons (now + 2) ts]; rfl
    · rw [image_eq_map g idx F hnil hcons (now + 1) ts]; rfl

theorem typstImage_eq (C : TypstConsts) (idx : Nat) : ∀ (now : Nat) (ts : Terms),
    C.typstImage idx now ts = (imageIter idx now ts.toList).map C.typstTerm :=
  image_eq_map C.typstTerm idx (C.typstImage idx) (fun _ => rfl) (fun _ _ _ => rfl)

theorem serImage_eq (C : TypstConsts) (idx : Nat) : ∀ (now : Nat) (ts : Terms),
    serImage C idx now ts = (imageIter idx now ts.toList).map (ser C) :=
  image_eq_map (ser C) idx (serImage C idx) (fun _ => rfl) (fun _ _ _ => rfl)

theorem wfTys_iff (C : TypstConsts) : ∀ ts : Terms, wfTys C ts = true ↔ ∀ t ∈ ts.toList, wfTy C t = true
  | .nil => by simp [wfTys, Terms.toList]
  | .cons t ts => by simp [wfTys, Terms.toList, wfTys_iff C ts]

/-- what `wfTy` asks of the components of a set or a sequence -/
theorem wfTys_ne {C : TypstConsts} {ts : Terms} (h : (!ts.isEmpty && wfTys C ts) = true) :
    ts.toList ≠ [] ∧ ∀ u ∈ ts.toList, wfTy C u = true := by
  simp only [Bool.and_eq_true, Bool.not_eq_true', wfTys_iff] at h
  refine ⟨?_, h.2⟩
  cases ts with
  | nil => exact absurd h.1 (by decide)
  | cons t ts => exact List.cons_ne_nil _ _

theorem mem_imageIter (idx : Nat) {u : Term} : ∀ (l : List Term) (now : Nat), u ∈ imageIter idx now l →
    u = .placeholder ∨ u ∈ l
  | [], now, h => by
    rw [imageIter] at h
    split at h
    · exact .inl (List.mem_singleton.mp h)
    · exact nomatch h
  | t :: l, now, h => by
    have step : ∀ now, u ∈ t :: imageIter idx now l → u = .placeholder ∨ u ∈ t :: l := fun now h =>
      (List.mem_cons.mp h).elim (fun e => .inr (e ▸ List.mem_cons_self))
        fun h => (mem_imageIter idx l now h).imp_right (List.mem_cons_of_mem t)
    rw [imageIter] at h
    split at h
    · exact (List.mem_cons.mp h).elim .inl (step _)
    · exact step _ h

theorem wfTy_imageIter {C : TypstConsts} {l : List Term} (h : ∀ t ∈ l, wfTy C t = true) (idx now : Nat) :
    ∀ u ∈ imageIter idx now l, wfTy C u = true := fun u hu =>
  (mem_imageIter idx l now hu).elim (fun e => e ▸ rfl) (h u)

section
variable {C : TypstConsts} {k : Str} (h : spacedB C k = true)
include h

theorem spaced_facts : (∀ x ∈ k.head?, C.isWs x = true) ∧ (∃ x, k.getLast? = some x ∧ C.isWs x = true) := by
  simp only [spacedB, Bool.and_eq_true, Option.any_eq_true] at h
  obtain ⟨⟨a, ha, hwa⟩, ⟨b, hb, hwb⟩⟩ := h
  refine ⟨fun x hx => ?_, b, hb, hwb⟩
  obtain rfl : a = x := Option.some.inj (ha.symm.trans hx)
  exact hwa

theorem spaced_isEmpty : k.isEmpty = false := by
  cases k with
  | nil => exact nomatch h
  | cons a as => rfl

theorem words_spaced_left (x : Str) : C.words (k ++ x) = C.words k ++ C.words x :=
  words_end_ws C k x (spaced_facts h).2

theorem words_spaced_right (x : Str) : C.words (x ++ k) = C.words x ++ C.words k :=
  words_append_ws C x k (spaced_facts h).1

theorem words_mid (x y : Str) : C.words (x ++ (k ++ y)) = C.words x ++ (C.words k ++ C.words y) := by
  cases k with
  | nil => exact absurd h (by simp [spacedB])
  | cons a as => rw [words_append_ws C x (a :: as ++ y) (spaced_facts h).1, words_spaced_left h]

theorem words_join_spaced : ∀ (strings : List Str),
    C.words (joinWith k strings) = joinToks (C.words k) (strings.map C.words)
  | [] => rfl
  | [x] => rfl
  | x :: y :: r => by
    simp only [joinWith, List.map_cons, joinToks]
    rw [List.append_assoc, words_mid h, words_join_spaced (y :: r), List.append_assoc]
    rfl

end

section
variable {C : TypstConsts} (hC : typstLayoutB C = true)
include hC

theorem layout_split : LayoutFacts C := by
  simp only [typstLayoutB, Bool.and_eq_true, List.all_eq_true, Bool.not_eq_true', List.isEmpty_iff] at hC
  obtain ⟨⟨⟨hs, hp⟩, hq⟩, he⟩ := hC
  -- the brackets and the separator are the first nine entries of `typstSpacedList`
  have nth : ∀ (i : Nat) (k : Str), (typstSpacedList C)[i]? = some k → spacedB C k = true := fun i k h =>
    hs k (List.mem_of_getElem? h)
  exact ⟨hs, ⟨nth 0 _ rfl, nth 1 _ rfl⟩, ⟨nth 2 _ rfl, nth 3 _ rfl⟩, ⟨nth 4 _ rfl, nth 5 _ rfl⟩,
    ⟨nth 6 _ rfl, nth 7 _ rfl⟩, nth 8 _ rfl, hp, hq, he⟩

theorem words_dbg (n : Str) (hn : tyNameOK C n = true) : C.dbg n = '"' :: (n ++ ['"']) ∧ C.words (C.dbg n) = [C.dbg n] := by
  have hq := (layout_split hC).quote
  simp only [tyNameOK, List.all_eq_true, Bool.and_eq_true, Bool.not_eq_true'] at hn
  have hflat : n.flatMap C.dbgChar = n := by
    induction n with
    | nil => rfl
    | cons c cs ih =>
      have hc := hn c (by simp)
      simp only [List.flatMap_cons, dbgChar, hc.1, if_true, List.singleton_append]
      rw [ih (fun x hx => hn x (by simp [hx]))]
  have e : C.dbg n = '"' :: (n ++ ['"']) := by simp [dbg, hflat]
  refine ⟨e, ?_⟩
  apply words_noWs C _ (by simp [dbg])
  intro c hc
  rw [e] at hc
  simp only [List.mem_cons, List.mem_append, List.not_mem_nil, or_false] at hc
  rcases hc with rfl | hc | rfl
  · exact hq
  · exact (hn c hc).2
  · exact hq

theorem words_prefixed {p : Str} (hp : p ∈ typstPrefixList C) (n : Str) (hn : tyNameOK C n = true) :
    C.words (p ++ C.dbg n) = C.words p ++ [C.dbg n] := by
  have h := (layout_split hC).pre p hp
  simp only [endsWsB, Bool.or_eq_true, List.isEmpty_iff, Option.any_eq_true] at h
  rcases h with h | ⟨x, hx, hw⟩
  · subst h
    simp [words_nil, (words_dbg hC n hn).2]
  · rw [words_end_ws C p _ ⟨x, hx, hw⟩, (words_dbg hC n hn).2]

theorem tyNameOK_nil : tyNameOK C [] = true := rfl

end

theorem tyNameOK_showNat {C : TypstConsts} (n : Nat) (hd : ∀ d, d < 10 → tyNameOK C [digitChar d] = true) :
    tyNameOK C (showNat n) = true := by
  simp only [tyNameOK, List.all_eq_true]
  intro c hc
  obtain ⟨d, hd', rfl⟩ := showNat_chars n c hc
  have := hd d hd'
  simpa [tyNameOK] using this

theorem digits_ok {C : TypstConsts} (hd : (List.range 10).all (fun d => tyNameOK C [digitChar d]) = true) (n : Nat) :
    tyNameOK C (showNat n) = true :=
  tyNameOK_showNat n fun d hlt => List.all_eq_true.mp hd d (List.mem_range.mpr hlt)

end Narsese
