/-
  A decoder for token serializations (`decT`, `decL`) and the keyword tables it goes by.
-/
import Proofs.Typst.Ser
set_option autoImplicit false

namespace Narsese
open TypstConsts

def stripT : List Str → List Str → Option (List Str)
  | [], s => some s
  | _ :: _, [] => none
  | k :: ks, c :: cs => if k = c then stripT ks cs else none

theorem stripT_append (k r : List Str) : stripT k (k ++ r) = some r := by
  induction k with
  | nil => rfl
  | cons a as ih => simp [stripT, ih]

theorem stripT_head_ne {k s : List Str} (hk : k ≠ []) (h : ∀ a ∈ k.head?, ∀ b ∈ s.head?, a ≠ b) : stripT k s = none := by
  cases k with
  | nil => exact absurd rfl hk
  | cons a as =>
    cases s with
    | nil => rfl
    | cons b bs =>
      have := h a (by simp) b (by simp)
      simp [stripT, this]

/-- the token is a name in its `Debug` form (`C.dbg n` begins with a double quote) -/
def isNameTok (s : Str) : Bool := s.head? == some '"'
/-- remove the surrounding quotes -/
def unq (s : Str) : Str := (s.drop 1).dropLast

theorem unq_quoted (n : Str) : unq ('"' :: (n ++ ['"'])) = n := by
  simp [unq]

theorem nameTok_dbg {C : TypstConsts} (hC : typstLayoutB C = true) (n : Str) (hn : tyNameOK C n = true) :
    isNameTok (C.dbg n) = true ∧ unq (C.dbg n) = n := by
  rw [(words_dbg hC n hn).1]
  exact ⟨rfl, unq_quoted n⟩

/-- first entry of a keyword table whose tokens are a prefix of the text -/
def findStrip {β : Type} (W : Str → List Str) : List (Str × β) → List Str → Option (β × List Str)
  | [], _ => none
  | (k, b) :: es, toks =>
    match stripT (W k) toks with
    | some r => some (b, r)
    | none => findStrip W es toks

theorem findStrip_none {β : Type} {W : Str → List Str} : ∀ (tbl : List (Str × β)) (s : List Str),
    (∀ e ∈ tbl, stripT (W e.1) s = none) → findStrip W tbl s = none
  | [], _, _ => rfl
  | (k, b) :: es, s, h => by
    rw [findStrip, h (k, b) (by simp)]
    exact findStrip_none es s fun e he => h e (by simp [he])

namespace TypstConsts

def tyConns (C : TypstConsts) : List (Str × EFormat.ConnK) :=
  [ (C.cExtInt, .set .extInt), (C.cIntInt, .set .intInt), (C.cExtDiff, .diff .extDiff), (C.cIntDiff, .diff .intDiff),
    (C.cProduct, .seq .product), (C.cExtImg, .img .ext), (C.cIntImg, .img .int), (C.cConj, .set .conj),
    (C.cDisj, .set .disj), (C.cNeg, .neg), (C.cSeqConj, .seq .seqConj), (C.cParConj, .set .parConj) ]

def tyCops (C : TypstConsts) : List (Str × BinK) :=
  [ (C.copInh, .inh), (C.copSim, .sim), (C.copImpl, .impl), (C.copEquiv, .equiv), (C.copImplPred, .implPred),
    (C.copImplConc, .implConc), (C.copImplRetro, .implRetro), (C.copEquivPred, .equivPred), (C.copEquivConc, .equivConc) ]

def tyAtoms (C : TypstConsts) : List (Str × EFormat.AtomHead) :=
  [ (C.prePlaceholder, .placeholder), (C.preIVar, .named .ivar), (C.preDVar, .named .dvar), (C.preQVar, .named .qvar),
    (C.preInterval, .interval), (C.preOperator, .named .op) ]

end TypstConsts

/-- the tables hold one entry for each class: an entry is shown to be in its table by looking up the class -/
theorem mem_of_lookup {β : Type} [DecidableEq β] {tbl : List (Str × β)} {k : Str} {b : β}
    (h : tbl.find? (fun e => e.2 == b) = some (k, b)) : (k, b) ∈ tbl :=
  List.mem_of_find?_eq_some h

/-- what a connecter class builds from its components (no de-duplication: the decoder returns the printed order) -/
def buildT (ck : EFormat.ConnK) (ts : List Term) : Option Term :=
  match ck with
  | .neg =>
    match ts with
    | [t] => some (.neg t)
    | _ => none
  | .diff k =>
    match ts with
    | [a, b] => some (.bin k a b)
    | _ => none
  | .img k =>
    match extractPlaceholder ts with
    | some (i, ts') => some (.image k i (Terms.ofList ts'))
    | none => none
  | .seq k => some (.seqlike k (Terms.ofList ts))
  | .set k => some (.setlike k (Terms.ofList ts))
  | .operatorUnsupported => none

def buildAtomT : EFormat.AtomHead → Str → Option Term
  | .named k, name => some (.atom k name)
  | .placeholder, _ => some .placeholder
  | .interval, name => (parseUsize name).map .interval

/-- after an atom prefix: the quoted name -/
def decAtomTail (hd : EFormat.AtomHead) (r : List Str) : Option (Term × List Str) :=
  match r with
  | tok2 :: rest => if isNameTok tok2 then (buildAtomT hd (unq tok2)).map (·, rest) else none
  | [] => none

/-- the set term of a decoded component list (for the two bracket-only forms, `extSet` and `intSet`) -/
def wrapSet (k : SetK) (x : Option (List Term × List Str)) : Option (Term × List Str) :=
  x.map (fun p => (.setlike k (Terms.ofList p.1), p.2))

/-- inside statement brackets: subject, copula, predicate, closer -/
def decStmtTail (C : TypstConsts) (recT : List Str → Option (Term × List Str)) (r : List Str) :
    Option (Term × List Str) :=
  match recT r with
  | some (a, r1) =>
    match findStrip C.words C.tyCops r1 with
    | some (k, r2) =>
      match recT r2 with
      | some (b, r3) => (stripT (C.words C.brStatement.2) r3).map (fun rest => (.bin k a b, rest))
      | none => none
    | none => none
  | none => none

/-- inside compound brackets: prefix form (connecter first) or infix form (two components) -/
def decCompTail (C : TypstConsts) (recT : List Str → Option (Term × List Str))
    (recL : List Str → List Str → Option (List Term × List Str)) (r : List Str) : Option (Term × List Str) :=
  match findStrip C.words C.tyConns r with
  | some (ck, r1) =>
    match stripT (C.words C.sepCompound) r1 with
    | some r2 =>
      match recL r2 (C.words C.brCompound.2) with
      | some (l, rest) => (buildT ck l).map (·, rest)
      | none => none
    | none => none
  | none =>
    match recT r with
    | some (a, r1) =>
      match findStrip C.words C.tyConns r1 with
      | some (ck, r2) =>
        match recT r2 with
        | some (b, r3) =>
          match stripT (C.words C.brCompound.2) r3 with
          | some rest => (buildT ck [a, b]).map (·, rest)
          | none => none
        | none => none
      | none => none
    | none => none

/-- the four bracketed forms -/
def decOpeners (C : TypstConsts) (recT : List Str → Option (Term × List Str))
    (recL : List Str → List Str → Option (List Term × List Str)) (toks : List Str) : Option (Term × List Str) :=
  match stripT (C.words C.brExtSet.1) toks with
  | some r => wrapSet .extSet (recL r (C.words C.brExtSet.2))
  | none =>
    match stripT (C.words C.brIntSet.1) toks with
    | some r => wrapSet .intSet (recL r (C.words C.brIntSet.2))
    | none =>
      match stripT (C.words C.brStatement.1) toks with
      | some r => decStmtTail C recT r
      | none =>
        match stripT (C.words C.brCompound.1) toks with
        | some r => decCompTail C recT recL r
        | none => none

/-- one element of a component list, then the closer or the separator -/
def decLStep (C : TypstConsts) (recL : List Str → List Str → Option (List Term × List Str)) (close : List Str)
    (t : Term) (r1 : List Str) : Option (List Term × List Str) :=
  match stripT close r1 with
  | some rest => some ([t], rest)
  | none =>
    match stripT (C.words C.sepCompound) r1 with
    | some r2 => (recL r2 close).map (fun p => (t :: p.1, p.2))
    | none => none

mutual
  /-- decode one term from the front of a token list -/
  def decT (C : TypstConsts) : Nat → List Str → Option (Term × List Str)
    | 0, _ => none
    | f + 1, toks =>
      match toks with
      | [] => none
      | tok :: rest0 =>
        if isNameTok tok then some (.atom .word (unq tok), rest0)
        else
          match findStrip C.words C.tyAtoms (tok :: rest0) with
          | some (hd, r) => decAtomTail hd r
          | none => decOpeners C (decT C f) (decL C f) (tok :: rest0)
  /-- decode components separated by the separator up to the closing tokens -/
  def decL (C : TypstConsts) : Nat → List Str → List Str → Option (List Term × List Str)
    | 0, _, _ => none
    | f + 1, toks, close =>
      match decT C f toks with
      | some (t, r1) => decLStep C (decL C f) close t r1
      | none => none
end

end Narsese
