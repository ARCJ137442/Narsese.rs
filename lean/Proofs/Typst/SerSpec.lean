/-
  The words of the rendering of a term are its token serialization (`words_raw`).
-/
import Proofs.Typst.Shape
set_option autoImplicit false

namespace Narsese
open TypstConsts

section
variable {C : TypstConsts} (hC : typstLayoutB C = true)
include hC

theorem words_tplCompound (br : Str × Str) (conn : Str) (strings : List Str)
    (hb : spacedB C br.1 = true ∧ spacedB C br.2 = true) (hconn : conn = [] ∨ spacedB C conn = true) :
    C.words (tplCompound br conn strings C.sepCompound) = serCompound C br conn (strings.map C.words) := by
  have hsep := (layout_split hC).sepCompound
  unfold tplCompound serCompound
  rw [List.append_assoc, words_spaced_left hb.1, words_spaced_right hb.2]
  congr 2
  rcases hconn with rfl | hc
  · exact words_join_spaced hsep strings
  · simp only [spaced_isEmpty hc, Bool.false_eq_true, if_false, List.length_map]
    split
    · exact words_join_spaced hc strings
    · rw [List.append_assoc, words_spaced_left hc, words_spaced_left hsep, words_join_spaced hsep strings]

theorem spaced_setBrackets (k : SetK) : spacedB C (C.setBrackets k).1 = true ∧ spacedB C (C.setBrackets k).2 = true := by
  cases k with
  | extSet => exact (layout_split hC).brExtSet
  | intSet => exact (layout_split hC).brIntSet
  | _ => exact (layout_split hC).brCompound

/-- the connecters and the copulas are entries 9 to 20 and 21 to 29 of `typstSpacedList` -/
theorem spaced_conn {conn : Str} {ck : EFormat.ConnK} (h : (conn, ck) ∈ C.tyConns) : spacedB C conn = true := by
  have e : C.tyConns.map (·.1) = ((typstSpacedList C).drop 9).take 12 := rfl
  exact (layout_split hC).spaced _ (List.mem_of_mem_drop (List.mem_of_mem_take (e ▸ List.mem_map_of_mem h)))

theorem spaced_cop {cop : Str} {k : BinK} (h : (cop, k) ∈ C.tyCops) : spacedB C cop = true := by
  have e : C.tyCops.map (·.1) = (typstSpacedList C).drop 21 := rfl
  exact (layout_split hC).spaced _ (List.mem_of_mem_drop (e ▸ List.mem_map_of_mem h))

omit hC in
theorem words_map {l : List Term} (h : ∀ u ∈ l, C.words (C.rawTerm u) = ser C u) :
    (l.map C.typstTerm).map C.words = l.map (ser C) := by
  rw [List.map_map]
  exact List.map_congr_left fun u hu => by simp only [Function.comp, typstTerm, words_post, h u hu]

variable (hd : (List.range 10).all (fun d => tyNameOK C [digitChar d]) = true)
include hd

theorem words_raw (t : Term) (h : wfTy C t = true) : C.words (C.rawTerm t) = ser C t := by
  induction hn : tb t using Nat.strongRecOn generalizing t with
  | ind n rec =>
    subst hn
    have L := layout_split hC
    -- the components are rendered one by one, each a smaller term
    have ih : ∀ l : List Term, costL l < tb t → (∀ u ∈ l, wfTy C u = true) →
        (l.map C.typstTerm).map C.words = l.map (ser C) := fun l hl hwl =>
      words_map fun u hu => rec (tb u) (by have := tb_lt_costL hu; omega) u (hwl u hu) rfl
    cases shape t with
    | round _ l hp =>
      obtain ⟨conn, hraw, hser, hmem⟩ := hp.render C
      obtain ⟨_, hwl, hcost, _⟩ := hp.build h
      rw [hraw, hser, words_tplCompound hC _ _ _ L.brCompound (.inr (spaced_conn hC hmem)), ih l hcost hwl]
    | atom k name =>
      rw [rawTerm, ser]
      exact words_prefixed hC (by cases k <;> simp [atomFeature, typstPrefixList]) name h
    | placeholder => exact words_prefixed hC (by simp [typstPrefixList]) [] rfl
    | interval m => exact words_prefixed hC (by simp [typstPrefixList]) _ (digits_ok hd m)
    | braces k ts hk =>
      have hconn : C.setFeature k = [] := by rcases hk with rfl | rfl <;> rfl
      rw [rawTerm, ser, typstTerms_eq, sers_eq, words_tplCompound hC _ _ _ (spaced_setBrackets hC k) (.inl hconn),
        ih _ (by rw [tb, lb_eq]; omega) (wfTys_ne h).2]
    | statement k a b hk =>
      simp only [wfTy, Bool.and_eq_true] at h
      simp only [tb] at rec
      rw [rawTerm, ser, if_pos hk, if_pos hk, L.sepStatement]
      simp only [List.append_nil, List.append_assoc]
      rw [words_spaced_left L.brStatement.1, words_mid (spaced_cop hC (binFeature_mem C hk)),
        words_spaced_right L.brStatement.2, words_post, words_post,
        rec (tb a) (by omega) a h.1 rfl, rec (tb b) (by omega) b h.2 rfl]

theorem words_terms : ∀ ts : Terms, wfTys C ts = true → (C.typstTerms ts).map C.words = sers C ts := fun ts h => by
  rw [typstTerms_eq, sers_eq, words_map fun u hu => words_raw hC hd u ((wfTys_iff C ts).mp h u hu)]

theorem words_image (idx : Nat) : ∀ (now : Nat) (ts : Terms), wfTys C ts = true →
    (C.typstImage idx now ts).map C.words = serImage C idx now ts := fun now ts h => by
  rw [typstImage_eq, serImage_eq]
  exact words_map fun u hu => words_raw hC hd u (wfTy_imageIter ((wfTys_iff C ts).mp h) idx now u hu)

end

end Narsese
