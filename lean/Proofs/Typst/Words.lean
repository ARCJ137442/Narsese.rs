/-
  The words of a string: its maximal runs of non-whitespace characters. `post_process_whitespace` keeps them
  (`words_post`), so two renderings can be compared word by word.
-/
import NarseseModel.Typst
set_option autoImplicit false

namespace Narsese
open TypstConsts

namespace TypstConsts

/-- split at whitespace, dropping empty pieces; `cur` is the (reversed) word being read -/
def wordsAux (C : TypstConsts) : Str → Str → List Str
  | cur, [] => if cur.isEmpty then [] else [cur.reverse]
  | cur, c :: cs =>
    if C.isWs c then (if cur.isEmpty then wordsAux C [] cs else cur.reverse :: wordsAux C [] cs)
    else wordsAux C (c :: cur) cs

def words (C : TypstConsts) (s : Str) : List Str := C.wordsAux [] s

end TypstConsts

variable (C : TypstConsts)

/-- the pending word, if any -/
def pend (cur : Str) : List Str := if cur.isEmpty then [] else [cur.reverse]

theorem words_nil : C.words [] = [] := rfl

theorem wordsAux_nil (cur : Str) : C.wordsAux cur [] = pend cur := rfl

theorem wordsAux_ws (cur : Str) (c : Char) (cs : Str) (h : C.isWs c = true) :
    C.wordsAux cur (c :: cs) = pend cur ++ C.words cs := by
  unfold wordsAux pend words
  by_cases hc : cur.isEmpty = true <;> simp [h, hc]

theorem wordsAux_nws (cur : Str) (c : Char) (cs : Str) (h : C.isWs c = false) :
    C.wordsAux cur (c :: cs) = C.wordsAux (c :: cur) cs := by
  rw [wordsAux, h]
  rfl

theorem words_ws (c : Char) (cs : Str) (h : C.isWs c = true) : C.words (c :: cs) = C.words cs :=
  wordsAux_ws C [] c cs h

/-- at a whitespace character the text falls into two parts that are read independently -/
theorem wordsAux_split : ∀ (a cur : Str) (c : Char) (b : Str), C.isWs c = true →
    C.wordsAux cur (a ++ c :: b) = C.wordsAux cur a ++ C.words b
  | [], cur, c, b, hc => wordsAux_ws C cur c b hc
  | x :: a, cur, c, b, hc => by
    rw [List.cons_append]
    by_cases hx : C.isWs x = true
    · rw [wordsAux_ws C cur x _ hx, wordsAux_ws C cur x a hx, words, wordsAux_split a [] c b hc, List.append_assoc]
      rfl
    · have hx' : C.isWs x = false := by simpa using hx
      rw [wordsAux_nws C cur x _ hx', wordsAux_nws C cur x a hx']
      exact wordsAux_split a (x :: cur) c b hc

theorem words_append_ws (a b : Str) (hb : ∀ x ∈ b.head?, C.isWs x = true) :
    C.words (a ++ b) = C.words a ++ C.words b := by
  cases b with
  | nil => simp [words_nil]
  | cons x xs =>
    have hx := hb x (by simp)
    rw [words_ws C x xs hx]
    exact wordsAux_split C a [] x xs hx

theorem words_end_ws (a b : Str) (ha : ∃ x, a.getLast? = some x ∧ C.isWs x = true) :
    C.words (a ++ b) = C.words a ++ C.words b := by
  obtain ⟨x, hx, hw⟩ := ha
  obtain ⟨a', rfl⟩ := List.getLast?_eq_some_iff.mp hx
  have e : ∀ y, C.words (a' ++ x :: y) = C.words a' ++ C.words y := fun y => wordsAux_split C a' [] x y hw
  rw [List.append_assoc, List.singleton_append, e b, e [], words_nil, List.append_nil]

theorem wordsAux_noWs : ∀ (s cur : Str), (∀ c ∈ s, C.isWs c = false) → C.wordsAux cur s = pend (s.reverse ++ cur)
  | [], cur, _ => by simp [wordsAux_nil]
  | c :: cs, cur, h => by
    rw [wordsAux]
    simp only [h c (by simp), Bool.false_eq_true, if_false]
    rw [wordsAux_noWs cs (c :: cur) (fun x hx => h x (by simp [hx]))]
    simp

theorem words_noWs (s : Str) (hne : s ≠ []) (h : ∀ c ∈ s, C.isWs c = false) : C.words s = [s] := by
  rw [words, wordsAux_noWs C s [] h]
  simp [pend, hne]

theorem words_dropWs : ∀ s : Str, C.words (C.dropWs s) = C.words s
  | [] => rfl
  | c :: cs => by
    unfold dropWs
    split
    · next h => rw [words_dropWs cs, words_ws C c cs h]
    · rfl

theorem words_dropWs_reverse : ∀ t : Str, C.words (C.dropWs t).reverse = C.words t.reverse
  | [] => rfl
  | c :: t => by
    unfold dropWs
    split
    · next h =>
      rw [words_dropWs_reverse t, List.reverse_cons, words_append_ws C _ [c] (fun _ hx => Option.some.inj hx ▸ h), words_ws C c [] h,
        words_nil, List.append_nil]
    · rfl

theorem words_trim (s : Str) : C.words (C.trim s) = C.words s := by
  rw [trim, words_dropWs_reverse, List.reverse_reverse, words_dropWs]

theorem wordsAux_squeeze : ∀ (cs : Str) (c : Char) (cur : Str),
    C.wordsAux cur (c :: C.squeeze c cs) = C.wordsAux cur (c :: cs)
  | [], _, _ => rfl
  | d :: ds, c, cur => by
    unfold squeeze
    split
    · next hb =>
      -- `d` is dropped: after the whitespace `c` it makes no difference, with or without squeezing behind it
      simp only [Bool.and_eq_true] at hb
      have ih : C.words (d :: C.squeeze d ds) = C.words (d :: ds) := wordsAux_squeeze ds d []
      rw [words_ws C d _ hb.2, words_ws C d _ hb.2] at ih
      rw [wordsAux_ws C cur c _ hb.1, wordsAux_ws C cur c _ hb.1, words_ws C d ds hb.2, ih]
    · by_cases hc : C.isWs c = true
      · rw [wordsAux_ws C cur c _ hc, wordsAux_ws C cur c _ hc, words, wordsAux_squeeze ds d []]
        rfl
      · have hc' : C.isWs c = false := by simpa using hc
        rw [wordsAux_nws C cur c _ hc', wordsAux_nws C cur c _ hc']
        exact wordsAux_squeeze ds d (c :: cur)

theorem words_post (s : Str) : C.words (C.post s) = C.words s := by
  unfold post
  rw [← words_trim C s]
  cases C.trim s with
  | nil => rfl
  | cons c cs => exact wordsAux_squeeze C cs c []

end Narsese
