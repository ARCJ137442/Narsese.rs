/-
  What the decoder does on each form of serialization, given that the components are decoded; hence it inverts
  the serialization of every well-formed term (`dec_ser`), and `ser`, with it the rendering of terms, is injective.
-/
import Proofs.Typst.Dispatch
import Proofs.Typst.SerSpec
set_option autoImplicit false

namespace Narsese
open TypstConsts EFormat

section
variable {C : TypstConsts} (hT : TypstOK C)
include hT

/-- the decoder on a text that begins with one of the four openers goes to the bracketed forms -/
theorem dec_dispatch {K : Str} (hK : K ∈ (tyStarters C).drop 6) (r : List Str) (f : Nat) :
    decT C (f + 1) (C.words K ++ r) = decOpeners C (decT C f) (decL C f) (C.words K ++ r) := by
  obtain ⟨tok, rest0, e, hn⟩ := starter_not_name hT K (List.mem_of_mem_drop hK) r
  have hat := atoms_miss_opener hT hK r
  generalize C.words K ++ r = toks at e hat ⊢
  subst e
  rw [decT]
  simp only [hn, Bool.false_eq_true, if_false, hat]

/- `decOpeners` tries the openers in the order of `tyStarters`, where they have the indices 6 (`brExtSet.1`),
   7 (`brIntSet.1`), 8 (`brStatement.1`), 9 (`brCompound.1`); `starter_miss hT i j` : on a text that begins with
   starter `i`, starter `j` is not stripped -/
theorem dec_extSet (r : List Str) (f : Nat) :
    decT C (f + 1) (C.words C.brExtSet.1 ++ r) = wrapSet .extSet (decL C f r (C.words C.brExtSet.2)) := by
  rw [dec_dispatch hT (by simp [tyStarters]), decOpeners, stripT_append]

theorem dec_intSet (r : List Str) (f : Nat) :
    decT C (f + 1) (C.words C.brIntSet.1 ++ r) = wrapSet .intSet (decL C f r (C.words C.brIntSet.2)) := by
  rw [dec_dispatch hT (by simp [tyStarters]), decOpeners, starter_miss hT 7 6 (by omega) _ _ rfl rfl, stripT_append]

theorem dec_stmt (r : List Str) (f : Nat) :
    decT C (f + 1) (C.words C.brStatement.1 ++ r) = decStmtTail C (decT C f) r := by
  rw [dec_dispatch hT (by simp [tyStarters]), decOpeners, starter_miss hT 8 6 (by omega) _ _ rfl rfl,
    starter_miss hT 8 7 (by omega) _ _ rfl rfl, stripT_append]

theorem dec_comp (r : List Str) (f : Nat) :
    decT C (f + 1) (C.words C.brCompound.1 ++ r) = decCompTail C (decT C f) (decL C f) r := by
  rw [dec_dispatch hT (by simp [tyStarters]), decOpeners, starter_miss hT 9 6 (by omega) _ _ rfl rfl,
    starter_miss hT 9 7 (by omega) _ _ rfl rfl, starter_miss hT 9 8 (by omega) _ _ rfl rfl, stripT_append]

theorem dec_atom (e : Str × AtomHead) (he : e ∈ C.tyAtoms) (n : Str) (hn : tyNameOK C n = true) (rest : List Str)
    (f : Nat) :
    decT C (f + 1) (C.words e.1 ++ (C.dbg n :: rest)) = (buildAtomT e.2 n).map (·, rest) := by
  obtain ⟨tok, rest0, e0, hnn⟩ := starter_not_name hT e.1 (atom_starter he) (C.dbg n :: rest)
  have hat := atoms_hit hT e he (C.dbg n :: rest)
  obtain ⟨hname, hunq⟩ := nameTok_dbg hT.layout n hn
  generalize C.words e.1 ++ (C.dbg n :: rest) = toks at e0 hat ⊢
  subst e0
  rw [decT]
  simp only [hnn, Bool.false_eq_true, if_false, hat, decAtomTail, hname, if_true, hunq]

theorem dec_word (n : Str) (hn : tyNameOK C n = true) (rest : List Str) (f : Nat) :
    decT C (f + 1) (C.dbg n :: rest) = some (.atom .word n, rest) := by
  obtain ⟨hname, hunq⟩ := nameTok_dbg hT.layout n hn
  rw [decT]
  simp only [hname, if_true, hunq]

theorem dec_compound (conn : Str) (ck : ConnK) (hmem : (conn, ck) ∈ C.tyConns) (l : List Term) (hne : l ≠ [])
    (hwf : ∀ u ∈ l, wfTy C u = true)
    (hc : ∀ u ∈ l, ∀ f rest, tb u ≤ f → decT C f (ser C u ++ rest) = some (u, rest))
    (f : Nat) (rest : List Str) (hf : costL l ≤ f) :
    decT C (f + 1) (serCompound C C.brCompound conn (l.map (ser C)) ++ rest) = (buildT ck l).map (·, rest) := by
  have hfind := findStrip_hit C _ (tok_split hT).conns (conn, ck) hmem
  unfold serCompound
  simp only [spaced_isEmpty (spaced_conn hT.layout hmem), Bool.false_eq_true, if_false, List.length_map, List.append_assoc]
  rw [dec_comp hT]
  by_cases h2 : l.length = 2
  · -- infix form
    obtain ⟨a, b, rfl⟩ : ∃ a b, l = [a, b] := by
      match l, h2 with
      | [a, b], _ => exact ⟨a, b, rfl⟩
    simp only [costL] at hf
    simp only [List.length_cons, List.length_nil, if_true, List.map_cons, List.map_nil, joinToks, List.append_assoc,
      decCompTail, conns_miss_term hT a (hwf a (by simp)), hc a (by simp) f _ (by omega), hfind,
      hc b (by simp) f _ (by omega), stripT_append]
  · have hcl : C.brCompound.2 ∈ tyClosers C := by simp [tyClosers]
    simp only [h2, if_false, List.append_assoc, decCompTail, hfind, stripT_append, decL_comps hT hcl l hne hc f rest hf]

theorem dec_bracketSet (k : SetK) (hk : k = .extSet ∨ k = .intSet) (l : List Term) (hne : l ≠ [])
    (hc : ∀ u ∈ l, ∀ f rest, tb u ≤ f → decT C f (ser C u ++ rest) = some (u, rest))
    (f : Nat) (rest : List Str) (hf : costL l ≤ f) :
    decT C (f + 1) (serCompound C (C.setBrackets k) (C.setFeature k) (l.map (ser C)) ++ rest) =
      some (.setlike k (Terms.ofList l), rest) := by
  rcases hk with rfl | rfl <;>
    simp only [serCompound, setFeature, TypstConsts.setBrackets, List.isEmpty_nil, if_true, List.append_assoc]
  · rw [dec_extSet hT, decL_comps hT (by simp [tyClosers]) l hne hc f rest hf]
    rfl
  · rw [dec_intSet hT, decL_comps hT (by simp [tyClosers]) l hne hc f rest hf]
    rfl

theorem dec_statement (cop : Str) (k : BinK) (hmem : (cop, k) ∈ C.tyCops) (a b : Term) (sa sb : List Str)
    (f : Nat) (rest : List Str)
    (ha : ∀ rest, decT C f (sa ++ rest) = some (a, rest)) (hb : ∀ rest, decT C f (sb ++ rest) = some (b, rest)) :
    decT C (f + 1) (C.words C.brStatement.1 ++ (sa ++ (C.words cop ++ (sb ++ C.words C.brStatement.2))) ++ rest) =
      some (.bin k a b, rest) := by
  simp only [List.append_assoc]
  rw [dec_stmt hT]
  simp only [decStmtTail, ha, findStrip_hit C _ (tok_split hT).cops (cop, k) hmem, hb, stripT_append, Option.map_some]

theorem dec_ser : ∀ (t : Term), wfTy C t = true → ∀ (f : Nat) (rest : List Str), tb t ≤ f →
    decT C f (ser C t ++ rest) = some (t, rest) := by
  intro t
  induction hn : tb t using Nat.strongRecOn generalizing t with
  | ind n rec =>
    intro hw f rest hf
    subst hn
    obtain ⟨f, rfl⟩ : ∃ f', f = f' + 1 := ⟨f - 1, by have := tb_pos t; omega⟩
    -- a component list that costs less than `t` holds smaller terms
    have ih : ∀ l : List Term, costL l < tb t → (∀ u ∈ l, wfTy C u = true) →
        ∀ u ∈ l, ∀ f rest, tb u ≤ f → decT C f (ser C u ++ rest) = some (u, rest) := fun l hl hwl u hu =>
      rec (tb u) (by have := tb_lt_costL hu; omega) u rfl (hwl u hu)
    cases shape t with
    | round ck l hp =>
      obtain ⟨conn, _, hser, hmem⟩ := hp.render C
      obtain ⟨hne, hwl, hcost, hb⟩ := hp.build hw
      rw [hser, dec_compound hT conn ck hmem l hne hwl (ih l hcost hwl) f rest (by omega), hb]
      rfl
    | atom k name =>
      by_cases hk : k = .word
      · subst hk
        rw [ser_word hT]
        exact dec_word hT name hw rest f
      · rw [ser, List.append_assoc]
        exact dec_atom hT _ (atomFeature_mem C hk) name hw rest f
    | placeholder =>
      rw [ser, List.append_assoc]
      exact dec_atom hT _ (prePlaceholder_mem C) [] rfl rest f
    | interval m =>
      simp only [wfTy, decide_eq_true_eq] at hw
      rw [ser, List.append_assoc]
      exact (dec_atom hT _ (preInterval_mem C) _ (digits_ok hT.digits m) rest f).trans
        (by simp [buildAtomT, parseUsize_showNat m hw])
    | braces k ts hk =>
      obtain ⟨hne, hwl⟩ := wfTys_ne hw
      rw [tb, lb_eq] at hf rec
      rw [ser, sers_eq, dec_bracketSet hT k hk _ hne (ih _ (by rw [tb, lb_eq]; omega) hwl) f rest (by omega),
        Terms.ofList_toList]
    | statement k a b hk =>
      simp only [wfTy, Bool.and_eq_true] at hw
      simp only [tb] at hf rec
      rw [ser, if_pos hk]
      exact dec_statement hT _ k (binFeature_mem C hk) a b _ _ f rest
        (fun r => rec (tb a) (by omega) a rfl hw.1 f r (by omega))
        (fun r => rec (tb b) (by omega) b rfl hw.2 f r (by omega))

theorem ser_prefix (t u : Term) (ht : wfTy C t = true) (hu : wfTy C u = true) (r1 r2 : List Str)
    (h : ser C t ++ r1 = ser C u ++ r2) : t = u ∧ r1 = r2 := by
  have h1 := dec_ser hT t ht (tb t + tb u) r1 (by omega)
  rw [h, dec_ser hT u hu (tb t + tb u) r2 (by omega)] at h1
  simpa [eq_comm] using h1

theorem ser_injective (t u : Term) (ht : wfTy C t = true) (hu : wfTy C u = true) (h : ser C t = ser C u) : t = u :=
  (ser_prefix hT t u ht hu [] [] (by rw [List.append_nil, List.append_nil, h])).1

theorem typstTerm_injective (t u : Term) (ht : wfTy C t = true) (hu : wfTy C u = true)
    (h : C.typstTerm t = C.typstTerm u) : t = u := by
  apply ser_injective hT t u ht hu
  have := congrArg C.words h
  simp only [typstTerm, words_post] at this
  rwa [words_raw hT.layout hT.digits t ht, words_raw hT.layout hT.digits u hu] at this

end

/-- the components of an image (placeholder inserted) with their serializations -/
def compsImg (C : TypstConsts) (idx : Nat) : Nat → Terms → List (Term × List Str)
  | now, .nil => if now = idx then [(.placeholder, ser C .placeholder)] else []
  | now, .cons t ts =>
    if now = idx then (.placeholder, ser C .placeholder) :: (t, ser C t) :: compsImg C idx (now + 2) ts
    else (t, ser C t) :: compsImg C idx (now + 1) ts

theorem compsImg_eq (C : TypstConsts) (idx : Nat) : ∀ (now : Nat) (ts : Terms),
    compsImg C idx now ts = (imageIter idx now ts.toList).map (fun t => (t, ser C t)) :=
  image_eq_map _ idx (compsImg C idx) (fun _ => rfl) (fun _ _ _ => rfl)

def CompOK (C : TypstConsts) (c : Term × List Str) : Prop :=
  ((∃ tok r, c.2 = tok :: r ∧ isNameTok tok = true) ∨ (∃ K ∈ tyStarters C, ∃ r, c.2 = C.words K ++ r)) ∧
  ∀ f rest, tb c.1 ≤ f → decT C f (c.2 ++ rest) = some (c.1, rest)

section
variable {C : TypstConsts} (hT : TypstOK C)
include hT

theorem compOK_of_wf (t : Term) (ht : wfTy C t = true) : CompOK C (t, ser C t) :=
  ⟨ser_starts hT t ht, dec_ser hT t ht⟩

theorem dec_compsImg (idx : Nat) : ∀ (now : Nat) (ts : Terms), wfTys C ts = true →
    ∀ c ∈ compsImg C idx now ts, CompOK C c := fun now ts h c hc => by
  rw [compsImg_eq] at hc
  obtain ⟨u, hu, rfl⟩ := List.mem_map.mp hc
  exact compOK_of_wf hT u (wfTy_imageIter ((wfTys_iff C ts).mp h) idx now u hu)

end

end Narsese
