/-
  What the decoder's dispatch finds: which keyword matches a text that begins with a given starter or with a
  quoted name; the component loop on a list of decodable terms (`decL_comps`); how a serialization begins
  (`ser_starts`), so that no connecter matches there.
-/
import Proofs.Typst.Shape
set_option autoImplicit false

namespace Narsese
open TypstConsts EFormat

/-- the atom prefixes are the first six starters -/
theorem atom_starter {C : TypstConsts} {e : Str × AtomHead} (he : e ∈ C.tyAtoms) : e.1 ∈ tyStarters C := by
  have e6 : C.tyAtoms.map (·.1) = (tyStarters C).take 6 := rfl
  exact List.mem_of_mem_take (e6 ▸ List.mem_map_of_mem he)

section
variable {C : TypstConsts} (hT : TypstOK C)
include hT

theorem starter_miss (i j : Nat) (hij : i ≠ j) (K K' : Str) (hi : (tyStarters C)[i]? = some K)
    (hj : (tyStarters C)[j]? = some K') (r : List Str) : stripT (C.words K') (C.words K ++ r) = none :=
  stripT_kw_ne (pairwise_optNe _ (tok_split hT).starters j i (Ne.symm hij) _ _ (by simp [hj]) (by simp [hi])) r

theorem starter_not_name (K : Str) (hK : K ∈ tyStarters C) (r : List Str) :
    ∃ tok rest, C.words K ++ r = tok :: rest ∧ isNameTok tok = false := by
  obtain ⟨t, ht, hn⟩ := (tok_split hT).starter_tok K hK
  have hh := head_words ht r
  cases hw : C.words K ++ r with
  | nil =>
    rw [hw] at hh
    exact nomatch hh
  | cons a as =>
    rw [hw] at hh
    exact ⟨a, as, rfl, Option.some.inj hh ▸ hn⟩

theorem conns_miss_starter (K : Str) (hK : K ∈ tyStarters C) (r : List Str) :
    findStrip C.words C.tyConns (C.words K ++ r) = none :=
  findStrip_miss_kw (fun e he => (tok_split hT).conn_starter e he K hK) r

theorem conns_miss_name (tok : Str) (hn : isNameTok tok = true) (r : List Str) :
    findStrip C.words C.tyConns (tok :: r) = none := by
  apply findStrip_miss C _ _ (some tok) rfl
  intro e he
  obtain ⟨t, ht, hnt⟩ := (tok_split hT).conn_tok e he
  refine optNe_of ht rfl fun h => ?_
  rw [h, hn] at hnt
  exact nomatch hnt

/-- the starters are the six atom prefixes followed by the four openers -/
theorem atoms_openers : pairwiseB optNe (C.tyAtoms.map (fun e => hdTok C e.1)) = true ∧
    ∀ e ∈ C.tyAtoms, ∀ K ∈ (tyStarters C).drop 6, optNe (hdTok C e.1) (hdTok C K) = true := by
  have hp := pairwiseB_iff.mp (tok_split hT).starters
  rw [← List.take_append_drop 6 ((tyStarters C).map (hdTok C)), List.pairwise_append] at hp
  exact ⟨pairwiseB_iff.mpr hp.1, fun e he K hK =>
    hp.2.2 _ (List.mem_map_of_mem (f := fun e => hdTok C e.1) he) _ (List.mem_map_of_mem (f := hdTok C) hK)⟩

theorem atoms_miss_opener {K : Str} (hK : K ∈ (tyStarters C).drop 6) (r : List Str) :
    findStrip C.words C.tyAtoms (C.words K ++ r) = none :=
  findStrip_miss_kw (fun e he => (atoms_openers hT).2 e he K hK) r

theorem atoms_hit (e : Str × AtomHead) (he : e ∈ C.tyAtoms) (r : List Str) :
    findStrip C.words C.tyAtoms (C.words e.1 ++ r) = some (e.2, r) :=
  findStrip_hit C _ (atoms_openers hT).1 e he r

theorem decL_comps {K : Str} (hK : K ∈ tyClosers C) :
    ∀ (l : List Term), l ≠ [] →
      (∀ u ∈ l, ∀ f rest, tb u ≤ f → decT C f (ser C u ++ rest) = some (u, rest)) →
      ∀ (f : Nat) (rest : List Str), costL l ≤ f →
      decL C f (joinToks (C.words C.sepCompound) (l.map (ser C)) ++ (C.words K ++ rest)) (C.words K) = some (l, rest)
  | [], h, _, _, _, _ => absurd rfl h
  | u :: l, _, hc, f, rest, hf => by
    simp only [costL] at hf
    obtain ⟨f, rfl⟩ : ∃ f', f = f' + 1 := ⟨f - 1, by omega⟩
    have hu := fun rest => hc u (by simp) f rest (by omega)
    cases l with
    | nil =>
      simp only [List.map_cons, List.map_nil, joinToks]
      rw [decL, hu]
      simp only [decLStep, stripT_append]
    | cons u2 l =>
      have ih := decL_comps hK (u2 :: l) (by simp) (fun x hx => hc x (by simp [hx])) f rest (by omega)
      simp only [List.map_cons, joinToks, List.append_assoc] at ih ⊢
      rw [decL, hu]
      simp only [decLStep, stripT_kw_ne ((tok_split hT).closers K hK), stripT_append, ih, Option.map_some]

theorem ser_word (n : Str) : ser C (.atom .word n) = [C.dbg n] := by
  rw [ser, atomFeature, (tok_split hT).preWord, words_nil]
  rfl

theorem ser_starts (t : Term) (ht : wfTy C t = true) :
    (∃ tok r, ser C t = tok :: r ∧ isNameTok tok = true) ∨ (∃ K ∈ tyStarters C, ∃ r, ser C t = C.words K ++ r) := by
  cases shape t with
  | round _ _ hp =>
    obtain ⟨conn, _, hser, _⟩ := hp.render C
    exact .inr ⟨C.brCompound.1, by simp [tyStarters], _, hser⟩
  | atom k n =>
    by_cases hk : k = .word
    · subst hk
      exact .inl ⟨C.dbg n, [], ser_word hT n, (nameTok_dbg hT.layout n ht).1⟩
    · exact .inr ⟨_, atom_starter (atomFeature_mem C hk), _, rfl⟩
  | placeholder => exact .inr ⟨_, atom_starter (prePlaceholder_mem C), _, rfl⟩
  | interval n => exact .inr ⟨_, atom_starter (preInterval_mem C), _, rfl⟩
  | braces k ts hk =>
    exact .inr ⟨(C.setBrackets k).1, by rcases hk with rfl | rfl <;> simp [tyStarters, TypstConsts.setBrackets], _, rfl⟩
  | statement _ a b hk => exact .inr ⟨C.brStatement.1, by simp [tyStarters], _, by rw [ser, if_pos hk]⟩

theorem conns_miss_term (t : Term) (ht : wfTy C t = true) (r : List Str) :
    findStrip C.words C.tyConns (ser C t ++ r) = none := by
  rcases ser_starts hT t ht with ⟨tok, r', e, hn⟩ | ⟨K, hK, r', e⟩
  · rw [e]
    exact conns_miss_name hT tok hn _
  · rw [e, List.append_assoc]
    exact conns_miss_starter hT K hK _

end

end Narsese
