/-
  The six ways a term is printed. Five constructors share one of them: round brackets with a connecter and a
  list of components (`Round`), which `buildT` turns back into the term. `Shape` is the case distinction the
  proofs about `rawTerm`, `ser` and `decT` go through. Also the fuel the decoder needs (`tb`, `costL`).
-/
import Proofs.Typst.TokOK
import Proofs.Spelling.FormatOK
set_option autoImplicit false

namespace Narsese
open TypstConsts EFormat

mutual
  /-- fuel with which `decT` decodes the serialization of the term (`dec_ser`); also the measure of the
  inductions over terms whose components are reached through a list -/
  def tb : Term → Nat
    | .atom _ _ | .placeholder | .interval _ => 1
    | .setlike _ ts => 1 + lb ts
    | .seqlike _ ts => 1 + lb ts
    | .image _ _ ts => 3 + lb ts
    | .neg t => 2 + tb t
    | .bin _ a b => 3 + (tb a + tb b)
  /-- `costL` of the component list (`lb_eq`) -/
  def lb : Terms → Nat
    | .nil => 0
    | .cons t ts => 1 + (tb t + lb ts)
end

/-- fuel with which `decL` decodes the serializations of the list (`decL_comps`) -/
def costL : List Term → Nat
  | [] => 0
  | t :: l => 1 + (tb t + costL l)

theorem tb_pos (t : Term) : 0 < tb t := by
  cases t <;> simp only [tb] <;> omega

theorem lb_eq : ∀ ts : Terms, lb ts = costL ts.toList
  | .nil => rfl
  | .cons t ts => by rw [lb, lb_eq ts]; rfl

theorem costL_append : ∀ l r : List Term, costL (l ++ r) = costL l + costL r
  | [], r => by simp [costL]
  | t :: l, r => by simp only [List.cons_append, costL, costL_append l r]; omega

theorem tb_lt_costL {u : Term} : ∀ {l : List Term}, u ∈ l → tb u < costL l
  | t :: l, h => by
    rcases List.mem_cons.mp h with rfl | h
    · simp only [costL]; omega
    · have := tb_lt_costL h
      simp only [costL]; omega

/-- `Round t ck l`: `t` is printed in round brackets, with the connecter of class `ck` and the components `l` -/
inductive Round : Term → ConnK → List Term → Prop
  | set (k : SetK) (ts : Terms) : ¬(k = .extSet ∨ k = .intSet) → Round (.setlike k ts) (.set k) ts.toList
  | seq (k : SeqK) (ts : Terms) : Round (.seqlike k ts) (.seq k) ts.toList
  | img (k : ImgK) (i : Nat) (ts : Terms) : Round (.image k i ts) (.img k) (imageIter i 0 ts.toList)
  | neg (t : Term) : Round (.neg t) .neg [t]
  | diff (k : BinK) (a b : Term) : ¬k.isStatement = true → Round (.bin k a b) (.diff k) [a, b]

/-- the forms `rawTerm` prints (and `decT` tells apart by the first token): every term has one -/
inductive Shape : Term → Prop
  | round {t : Term} (ck : ConnK) (l : List Term) : Round t ck l → Shape t
  | atom (k : AtomK) (n : Str) : Shape (.atom k n)
  | placeholder : Shape .placeholder
  | interval (n : Nat) : Shape (.interval n)
  | braces (k : SetK) (ts : Terms) : k = .extSet ∨ k = .intSet → Shape (.setlike k ts)
  | statement (k : BinK) (a b : Term) : k.isStatement = true → Shape (.bin k a b)

theorem shape : ∀ t : Term, Shape t
  | .atom k n => .atom k n
  | .placeholder => .placeholder
  | .interval n => .interval n
  | .setlike k ts => if h : k = .extSet ∨ k = .intSet then .braces k ts h else .round _ _ (.set k ts h)
  | .seqlike k ts => .round _ _ (.seq k ts)
  | .image k i ts => .round _ _ (.img k i ts)
  | .neg t => .round _ _ (.neg t)
  | .bin k a b => if h : k.isStatement = true then .statement k a b h else .round _ _ (.diff k a b h)

/-! ### the decoder's tables hold the constant the renderer prints for each class -/

theorem atomFeature_mem (C : TypstConsts) {k : AtomK} (hk : k ≠ .word) :
    (C.atomFeature k, AtomHead.named k) ∈ C.tyAtoms := by
  cases k with
  | word => exact absurd rfl hk
  | _ => exact mem_of_lookup rfl

theorem prePlaceholder_mem (C : TypstConsts) : (C.prePlaceholder, AtomHead.placeholder) ∈ C.tyAtoms := mem_of_lookup rfl

theorem preInterval_mem (C : TypstConsts) : (C.preInterval, AtomHead.interval) ∈ C.tyAtoms := mem_of_lookup rfl

theorem setFeature_mem (C : TypstConsts) {k : SetK} (hk : ¬(k = .extSet ∨ k = .intSet)) :
    C.setBrackets k = C.brCompound ∧ (C.setFeature k, ConnK.set k) ∈ C.tyConns := by
  cases k with
  | extSet => exact absurd (.inl rfl) hk
  | intSet => exact absurd (.inr rfl) hk
  | _ => exact ⟨rfl, mem_of_lookup rfl⟩

theorem binFeature_mem (C : TypstConsts) {k : BinK} (hk : k.isStatement = true) : (C.binFeature k, k) ∈ C.tyCops := by
  cases k with
  | extDiff | intDiff => exact absurd hk (by decide)
  | _ => exact mem_of_lookup rfl

theorem diffFeature_mem (C : TypstConsts) {k : BinK} (hk : ¬k.isStatement = true) :
    (C.binFeature k, ConnK.diff k) ∈ C.tyConns := by
  cases k with
  | extDiff | intDiff => exact mem_of_lookup rfl
  | _ => exact absurd rfl hk

/-- a compound in round brackets is printed with an entry of the connecter table, around the renderings of its
components -/
theorem Round.render (C : TypstConsts) {t : Term} {ck : ConnK} {l : List Term} (h : Round t ck l) :
    ∃ conn, C.rawTerm t = tplCompound C.brCompound conn (l.map C.typstTerm) C.sepCompound ∧
      ser C t = serCompound C C.brCompound conn (l.map (ser C)) ∧ (conn, ck) ∈ C.tyConns := by
  cases h with
  | set k ts hk =>
    obtain ⟨hbr, hmem⟩ := setFeature_mem C hk
    rw [← typstTerms_eq, ← sers_eq, ← hbr]
    exact ⟨C.setFeature k, rfl, rfl, hmem⟩
  | seq k ts =>
    rw [← typstTerms_eq, ← sers_eq]
    cases k <;> exact ⟨_, rfl, rfl, mem_of_lookup rfl⟩
  | img k i ts =>
    rw [← typstImage_eq, ← serImage_eq]
    cases k <;> exact ⟨_, rfl, rfl, mem_of_lookup rfl⟩
  | neg t => exact ⟨C.cNeg, rfl, rfl, mem_of_lookup rfl⟩
  | diff k a b hk =>
    exact ⟨C.binFeature k, by rw [rawTerm, if_neg hk]; rfl, by rw [ser, if_neg hk]; rfl, diffFeature_mem C hk⟩

/-- … and, if well-formed, built back from the components by `buildT`, within the fuel -/
theorem Round.build {C : TypstConsts} {t : Term} {ck : ConnK} {l : List Term} (hw : wfTy C t = true)
    (h : Round t ck l) : l ≠ [] ∧ (∀ u ∈ l, wfTy C u = true) ∧ costL l < tb t ∧ buildT ck l = some t := by
  cases h with
  | set _ ts | seq _ ts =>
    exact ⟨(wfTys_ne hw).1, (wfTys_ne hw).2, by rw [tb, lb_eq]; omega, by rw [buildT, Terms.ofList_toList]⟩
  | img k i ts =>
    simp only [wfTy, Bool.and_eq_true, decide_eq_true_eq, wfTys_iff] at hw
    have hiter := imageIter_toList i ts hw.1.1
    have hex := extract_imageIter i ts hw.1.1 hw.2
    refine ⟨by simp [hiter], wfTy_imageIter hw.1.2 i 0, ?_, by simp [buildT, hex, Terms.ofList_toList]⟩
    · have := costL_append (ts.toList.take i) (.placeholder :: ts.toList.drop i)
      have e := costL_append (ts.toList.take i) (ts.toList.drop i)
      rw [List.take_append_drop] at e
      simp only [costL, tb] at this
      rw [hiter, this, tb, lb_eq, e]; omega
  | neg | diff => exact ⟨List.cons_ne_nil _ _, by simpa [wfTy] using hw, by simp only [costL, tb]; omega, rfl⟩

end Narsese
