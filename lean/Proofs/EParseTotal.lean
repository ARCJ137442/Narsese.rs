/-
  The enum parser model is total. The term parser never panics, always makes progress, and never runs out of fuel
  when given `3·|rest| + 2` units (the termination proof of `parse_term` / `parse_compound_terms`); `eparse`,
  `parseMulti` and the truth and budget doors return `Ok`/`Err` for every input — no panic, no fuel exhaustion.
  (The stamp and punctuation doors need no hypothesis on the format: `Props/C04.lean`.)
-/
import Proofs.CursorLemmas
import Props.C04
import Proofs.Sat
import Proofs.EItems
import Props.C08
set_option autoImplicit false

namespace Narsese
open EFormat

/-- the keywords whose emptiness would let a loop of the Rust parser spin without consuming input -/
structure Sane (F : EFormat) : Prop where
  space_ne : F.spaceParse ≠ []
  sep_ne : F.separator ≠ []
  extSetL_ne : F.extSetL ≠ []
  intSetL_ne : F.intSetL ≠ []
  compL_ne : F.compL ≠ []
  stmtL_ne : F.stmtL ≠ []
  ph_ne : F.prePlaceholder ≠ []

/-- no panic; on success the cursor moved (strictly if `strict`); with `bound ≤ fuel` no fuel exhaustion -/
def Good {α : Type} (c : Cur) (r : PRes (α × Cur)) (strict : Bool) (bound fuel : Nat) : Prop :=
  r ≠ .panic ∧
  (∀ a c', r = .ok (a, c') → (if strict then c'.n < c.n else c'.n ≤ c.n)) ∧
  (bound ≤ fuel → r ≠ .fuel)

/-- `Good` as a `Sat`: the result lands `s` characters or more to the right of `c` (`s` is 0 or 1) -/
abbrev Adv {α : Type} (c : Cur) (s bound fuel : Nat) (r : PRes (α × Cur)) : Prop :=
  r.Sat (fun p => p.2.n + s ≤ c.n) (bound ≤ fuel)

theorem adv_ok {α : Type} {c c' : Cur} {s bound fuel : Nat} {a : α} (h : c'.n + s ≤ c.n) :
    Adv c s bound fuel (.ok (a, c')) := .ok h

theorem Adv.good {α : Type} {c : Cur} {r : PRes (α × Cur)} {strict : Bool} {bound fuel : Nat}
    (h : Adv c strict.toNat bound fuel r) : Good c r strict bound fuel := by
  refine ⟨h.ne_panic, ?_, h.ne_fuel⟩
  rintro a c' rfl
  have := h.of_ok
  cases strict <;> exact this

theorem skip_lt (c : Cur) (k : Str) (hk : k ≠ []) (hsw : c.startsWith k = true) : (c.skip k).n + 1 ≤ c.n := by
  have h1 := skip_n c k
  have h2 := (startsWith_length c k hsw).1
  have h3 := ne_nil_length hk
  omega

theorem skipAndSpaces_lt (F : EFormat) (c : Cur) (k : Str) (hk : k ≠ []) (hsw : c.startsWith k = true) :
    (F.skipAndSpaces c k).n + 1 ≤ c.n :=
  Nat.le_trans (Nat.succ_le_succ (skipSpaces_n F _)) (skip_lt c k hk hsw)

/-- a keyword skipped UNCHECKED from a cursor with at least one char left still makes progress -/
theorem skipAndSpaces_lt' (F : EFormat) (c : Cur) (k : Str) (hk : k ≠ []) (hc : 1 ≤ c.n) :
    (F.skipAndSpaces c k).n + 1 ≤ c.n := by
  have h1 := skipAndSpaces_n F c k
  have h3 := ne_nil_length hk
  omega

theorem parseAtom_adv (F : EFormat) (hs : Sane F) (c : Cur) (bound fuel : Nat) :
    Adv c 1 bound fuel (F.parseAtom c) := by
  unfold parseAtom
  split
  · exact .raise c
  · next pre hd hf =>
    have hsw : c.startsWith pre = true := by simpa using List.find?_some hf
    have hlen := (startsWith_length c pre hsw).1
    have hc1 : (c.skip pre).rest.length = c.n - pre.length := skip_n c pre
    have hscan := scanName_length F (c.skip pre).rest
    dsimp only
    generalize F.scanName (c.skip pre).rest = sn at hscan
    obtain ⟨name, rest'⟩ := sn
    dsimp only at hscan ⊢
    have fin : ∀ t : Term, 1 ≤ pre.length + name.length →
        Adv c 1 bound fuel (.ok (t, { c.skip pre with rest := rest' })) :=
      fun _ _ => .ok (show rest'.length + 1 ≤ c.n by omega)
    have named : ¬ name.isEmpty = true → 1 ≤ pre.length + name.length := fun h =>
      Nat.le_add_left_of_le (ne_nil_length (mt List.isEmpty_iff.mpr h))
    cases hd with
    | placeholder =>
      -- the only head that may come without a name: its prefix is not empty
      obtain rfl : pre = F.prePlaceholder := by simpa [atomHeads] using List.mem_of_find?_eq_some hf
      exact fin _ (Nat.le_add_right_of_le (ne_nil_length hs.ph_ne))
    | interval =>
      refine .ite (fun _ => .raise _) fun hne => ?_
      split
      · exact fin _ (named hne)
      · exact .raise _
    | named k => exact .ite (fun _ => .raise _) fun hne => fin _ (named hne)

theorem finishCompound_adv (F : EFormat) (c : Cur) (ck : ConnK) (ts : List Term) (c3 : Cur) (h3 : c3.n + 1 ≤ c.n)
    (bound fuel : Nat) : Adv c 1 bound fuel (F.finishCompound ck ts c3) := by
  have fin : ∀ (t : Term), Adv c 1 bound fuel (PRes.ok (t, F.skipAfterSpaces c3 F.compR)) := fun _ =>
    adv_ok (Nat.le_trans (Nat.succ_le_succ (skipAfterSpaces_n F c3 F.compR)) h3)
  unfold finishCompound
  cases ck with
  | operatorUnsupported => exact .raise _
  | set k => exact fin _
  | seq k => exact fin _
  | _ =>
    -- image, negation, difference: a test on the components comes first (a placeholder, or how many there are)
    dsimp only
    split
    · exact fin _
    · exact .raise _

mutual
  theorem parseTerm_adv (F : EFormat) (hs : Sane F) : ∀ (fuel : Nat) (c : Cur),
      Adv c 1 (3 * c.n + 2) fuel (F.parseTerm fuel c)
    | 0, c => .fuel (by omega)
    | fuel + 1, c => by
      unfold parseTerm
      have up : ∀ {r : PRes (Term × Cur)}, Adv c 1 (3 * c.n + 1) fuel r → Adv c 1 (3 * c.n + 2) (fuel + 1) r :=
        fun h => h.imp (fun _ => id) (by omega)
      exact .ite (fun h => up (parseTermSet_adv F hs fuel _ _ _ c hs.extSetL_ne h)) fun _ =>
        .ite (fun h => up (parseTermSet_adv F hs fuel _ _ _ c hs.intSetL_ne h)) fun _ =>
        .ite (fun h => up (parseCompound_adv F hs fuel c h)) fun _ =>
        .ite (fun h => up (parseStatement_adv F hs fuel c h)) fun _ => parseAtom_adv F hs c _ _

  theorem parseTerms_adv (F : EFormat) (hs : Sane F) : ∀ (fuel : Nat) (rb : Str) (c : Cur) (acc : List Term),
      Adv c 0 (3 * c.n + 3) fuel (F.parseTerms fuel rb c acc)
    | 0, rb, c, acc => .fuel (by omega)
    | fuel + 1, rb, c, acc => by
      unfold parseTerms
      have next : ∀ (c1 : Cur) (acc : List Term), c1.n + 1 ≤ c.n →
          Adv c 0 (3 * c.n + 3) (fuel + 1) (F.parseTerms fuel rb c1 acc) := fun c1 acc h1 =>
        (parseTerms_adv F hs fuel rb c1 acc).imp (fun _ h => by omega) (by omega)
      refine .ite (fun _ => adv_ok (Nat.le_refl _)) fun _ =>
        .ite (fun hsw => next _ _ (skip_lt c _ hs.space_ne hsw)) fun _ =>
        .ite (fun hsw => next _ _ (skip_lt c _ hs.sep_ne hsw)) fun _ => .ite (fun _ => adv_ok (Nat.le_refl _)) fun _ => ?_
      exact (parseTerm_adv F hs fuel c).elim (fun p h1 => next p.2 _ h1) .err fun hf => .fuel (by omega)

  theorem parseTermSet_adv (F : EFormat) (hs : Sane F) : ∀ (fuel : Nat) (k : SetK) (lb rb : Str) (c : Cur),
      lb ≠ [] → c.startsWith lb = true → Adv c 1 (3 * c.n + 1) fuel (F.parseTermSet fuel k lb rb c)
    | 0, k, lb, rb, c, _, _ => .fuel (by omega)
    | fuel + 1, k, lb, rb, c, hlb, hsw => by
      unfold parseTermSet
      have hlt := skipAndSpaces_lt F c lb hlb hsw
      refine (parseTerms_adv F hs fuel rb (F.skipAndSpaces c lb) []).elim ?_ .err
        fun hf => .fuel (by omega)
      rintro ⟨ts, c1⟩ (h1 : c1.n + 0 ≤ _)
      have h2 := skipAfterSpaces_n F c1 rb
      dsimp only
      split
      · exact .raise _
      · exact adv_ok (by omega)

  theorem parseCompound_adv (F : EFormat) (hs : Sane F) : ∀ (fuel : Nat) (c : Cur),
      c.startsWith F.compL = true → Adv c 1 (3 * c.n + 1) fuel (F.parseCompound fuel c)
    | 0, c, _ => .fuel (by omega)
    | fuel + 1, c, hsw => by
      unfold parseCompound
      have hlt := skipAndSpaces_lt F c F.compL hs.compL_ne hsw
      dsimp only
      split
      · exact .raise _
      · next kw ck _ =>
        have hc2 := skip_n (F.skipAndSpaces c F.compL) kw
        split
        · exact .raise _
        · refine (parseTerms_adv F hs fuel F.compR ((F.skipAndSpaces c F.compL).skip kw) []).elim
            ?_ .err fun hf => .fuel (by omega)
          rintro ⟨ts, c3⟩ (h3 : c3.n + 0 ≤ _)
          dsimp only
          split
          · exact .raise _
          · exact finishCompound_adv F c ck ts c3 (by omega) _ _

  theorem parseStatement_adv (F : EFormat) (hs : Sane F) : ∀ (fuel : Nat) (c : Cur),
      c.startsWith F.stmtL = true → Adv c 1 (3 * c.n + 1) fuel (F.parseStatement fuel c)
    | 0, c, _ => .fuel (by omega)
    | fuel + 1, c, hsw => by
      unfold parseStatement
      have hlt := skipAndSpaces_lt F c F.stmtL hs.stmtL_ne hsw
      refine (parseTerm_adv F hs fuel (F.skipAndSpaces c F.stmtL)).elim ?_ .err
        fun hf => .fuel (by omega)
      rintro ⟨subj, c1⟩ (h1 : c1.n + 1 ≤ _)
      dsimp only
      split
      · exact .raise _
      · next kw ck _ =>
        have h2 : (F.skipSpaces ((F.skipSpaces c1).skip kw)).n ≤ c1.n := by
          have a := skipSpaces_n F ((F.skipSpaces c1).skip kw)
          have b := skip_n (F.skipSpaces c1) kw
          have d := skipSpaces_n F c1
          omega
        refine (parseTerm_adv F hs fuel (F.skipSpaces ((F.skipSpaces c1).skip kw))).elim
          ?_ .err fun hf => .fuel (by omega)
        rintro ⟨pred, c3⟩ (h3 : c3.n + 1 ≤ _)
        have := skipAfterSpaces_n F c3 F.stmtR
        exact adv_ok (by omega)
end

theorem parseTerm_good (F : EFormat) (hs : Sane F) (fuel : Nat) (c : Cur) :
    Good c (F.parseTerm fuel c) true (3 * c.n + 2) fuel := (parseTerm_adv F hs fuel c).good

theorem parseTerms_good (F : EFormat) (hs : Sane F) : ∀ (fuel : Nat) (rb : Str) (c : Cur) (acc : List Term),
    Good c (F.parseTerms fuel rb c acc) false (3 * c.n + 3) fuel :=
  fun fuel rb c acc => (parseTerms_adv F hs fuel rb c acc).good

theorem parseTermSet_good (F : EFormat) (hs : Sane F) : ∀ (fuel : Nat) (k : SetK) (lb rb : Str) (c : Cur),
    lb ≠ [] → c.startsWith lb = true → Good c (F.parseTermSet fuel k lb rb c) true (3 * c.n + 1) fuel :=
  fun fuel k lb rb c hlb hsw => (parseTermSet_adv F hs fuel k lb rb c hlb hsw).good

theorem parseCompound_good (F : EFormat) (hs : Sane F) : ∀ (fuel : Nat) (c : Cur),
    c.startsWith F.compL = true → Good c (F.parseCompound fuel c) true (3 * c.n + 1) fuel :=
  fun fuel c hsw => (parseCompound_adv F hs fuel c hsw).good

theorem parseStatement_good (F : EFormat) (hs : Sane F) : ∀ (fuel : Nat) (c : Cur),
    c.startsWith F.stmtL = true → Good c (F.parseStatement fuel c) true (3 * c.n + 1) fuel :=
  fun fuel c hsw => (parseStatement_adv F hs fuel c hsw).good

structure SaneAll (F : EFormat) : Prop extends Sane F where
  truthL_ne : F.truthL ≠ []
  truthSep_ne : F.truthSep ≠ []
  budgetL_ne : F.budgetL ≠ []
  budgetSep_ne : F.budgetSep ≠ []
  pJ_ne : F.pJudgement ≠ []
  pG_ne : F.pGoal ≠ []
  pQ_ne : F.pQuestion ≠ []
  pU_ne : F.pQuest ≠ []
  sFixed_ne : F.stampFixed ≠ []
  sPast_ne : F.stampPast ≠ []
  sPresent_ne : F.stampPresent ≠ []
  sFuture_ne : F.stampFuture ≠ []

def saneAllB (F : EFormat) : Bool :=
  [F.spaceParse, F.separator, F.extSetL, F.intSetL, F.compL, F.stmtL, F.prePlaceholder, F.truthL, F.truthSep,
   F.budgetL, F.budgetSep, F.pJudgement, F.pGoal, F.pQuestion, F.pQuest, F.stampFixed, F.stampPast, F.stampPresent,
   F.stampFuture].all (fun k => !k.isEmpty)

theorem saneAll_of_bool (F : EFormat) (h : saneAllB F = true) : SaneAll F := by
  simp only [saneAllB, List.all_cons, List.all_nil, Bool.and_true, Bool.and_eq_true, Bool.not_eq_true',
    List.isEmpty_eq_false_iff] at h
  obtain ⟨h1, h2, h3, h4, h5, h6, h7, h8, h9, h10, h11, h12, h13, h14, h15, h16, h17, h18, h19⟩ := h
  exact { space_ne := h1, sep_ne := h2, extSetL_ne := h3, intSetL_ne := h4, compL_ne := h5, stmtL_ne := h6,
          ph_ne := h7, truthL_ne := h8, truthSep_ne := h9, budgetL_ne := h10, budgetSep_ne := h11, pJ_ne := h12,
          pG_ne := h13, pQ_ne := h14, pU_ne := h15, sFixed_ne := h16, sPast_ne := h17, sPresent_ne := h18,
          sFuture_ne := h19 }

theorem parseFloats_adv (F : EFormat) (hsp : F.spaceParse ≠ []) (N : Nat) (sep rb : Str) (hsep : sep ≠ []) :
    ∀ (fuel : Nat) (c : Cur) (buf : Str) (acc : List Num),
      Adv c 0 (c.n + 1) fuel (F.parseFloats N sep rb fuel c buf acc)
  | 0, c, buf, acc => .fuel (by omega)
  | fuel + 1, c, buf, acc => by
    unfold parseFloats
    refine .ite (fun _ => adv_ok (Nat.le_refl _)) fun _ => ?_
    split
    · exact adv_ok (Nat.le_refl _)
    · next ch cs hrest =>
      have hn : 1 ≤ c.n := by simp [Cur.n, hrest]
      have step : ∀ (c1 : Cur) (b : Str) (a : List Num), c1.n + 1 ≤ c.n →
          Adv c 0 (c.n + 1) (fuel + 1) (F.parseFloats N sep rb fuel c1 b a) := fun c1 b a h1 =>
        (parseFloats_adv F hsp N sep rb hsep fuel c1 b a).imp (fun _ h => by omega) (by omega)
      refine .ite (fun hsw => step _ _ _ (skip_lt c _ hsp hsw)) fun _ =>
        .ite (fun _ => step _ _ _ (by rw [skipN_n]; omega)) fun _ => .ite (fun hsw => ?_) fun _ =>
        .ite (fun _ => ?_) fun _ => .raise _
      · split
        · exact step _ _ _ (skip_lt c sep hsep hsw)
        · exact .raise _
      · split <;> exact adv_ok (Nat.le_refl _)

theorem readItem_adv {α : Type} (F : EFormat) (hsp : F.spaceParse ≠ []) (N : Nat) (lb sep rb : Str) (hsep : sep ≠ [])
    (mk : List Num → α) (c : Cur) :
    (F.readItem N lb sep rb mk c).Sat (fun p => p.2.n ≤ c.n - lb.length) True := by
  have hle := skipAndSpaces_n F c lb
  unfold readItem
  refine (parseFloats_adv F hsp N sep rb hsep _ (F.skipAndSpaces c lb) [] []).elim ?_ .err
    (absurd (Nat.le_refl _))
  rintro ⟨xs, c2⟩ (h2 : c2.n + 0 ≤ _)
  have := skipAfterSpaces_n F c2 rb
  exact .ite (fun _ => .ok (show (F.skipAfterSpaces c2 rb).n ≤ _ by omega)) fun _ => .raise _

theorem readItem_adv1 {α : Type} (F : EFormat) (hsp : F.spaceParse ≠ []) (N : Nat) (lb sep rb : Str) (hlb : lb ≠ [])
    (hsep : sep ≠ []) (mk : List Num → α) (c : Cur) (hc : 1 ≤ c.n) :
    (F.readItem N lb sep rb mk c).Sat (fun p => p.2.n + 1 ≤ c.n) True :=
  (readItem_adv F hsp N lb sep rb hsep mk c).imp (fun _ h => by have := ne_nil_length hlb; omega) id

theorem consumePunct_adv (F : EFormat) (hs : SaneAll F) (c : Cur) :
    (F.consumePunct c).Sat (fun p => p.2.n + 1 ≤ c.n) True := by
  unfold consumePunct
  exact .ite (fun h => .ok (skip_lt c _ hs.pJ_ne h)) fun _ => .ite (fun h => .ok (skip_lt c _ hs.pG_ne h)) fun _ =>
    .ite (fun h => .ok (skip_lt c _ hs.pQ_ne h)) fun _ => .ite (fun h => .ok (skip_lt c _ hs.pU_ne h)) fun _ => .raise _

theorem consumeStamp_adv (F : EFormat) (hs : SaneAll F) (c : Cur) :
    (F.consumeStamp c).Sat (fun p => p.2.n + 1 ≤ c.n) True := by
  unfold consumeStamp
  have h1 := skipAndSpaces_n F c F.stampL
  have fin : ∀ (s : Stamp) (c2 : Cur), c2.n + 1 ≤ c.n →
      (PRes.ok (s, F.skipAfterSpaces c2 F.stampR)).Sat (fun p => p.2.n + 1 ≤ c.n) True := fun s c2 h2 =>
    .ok (Nat.le_trans (Nat.succ_le_succ (skipAfterSpaces_n F c2 F.stampR)) h2)
  dsimp only
  generalize F.skipAndSpaces c F.stampL = c1 at h1 ⊢
  refine .ite (fun hsw => ?_) fun _ => .ite (fun hsw => ?_) fun _ => .ite (fun hsw => ?_) fun _ =>
    .ite (fun hsw => ?_) fun _ => .raise _
  · have hlt := skipAndSpaces_lt F c1 F.stampFixed hs.sFixed_ne hsw
    refine (Props.C04.parseIsizeAt_sat (F.skipAndSpaces c1 F.stampFixed)).elim ?_ .err .fuel
    rintro ⟨t, c2⟩ rfl
    have h2 : _ + _ = Cur.n _ := spanSigned_length (F.skipAndSpaces c1 F.stampFixed).rest
    exact fin _ _ (show (spanSigned _).2.length + 1 ≤ c.n by omega)
  · exact fin _ _ (by have := skip_lt c1 F.stampPast hs.sPast_ne hsw; omega)
  · exact fin _ _ (by have := skip_lt c1 F.stampPresent hs.sPresent_ne hsw; omega)
  · exact fin _ _ (by have := skip_lt c1 F.stampFuture hs.sFuture_ne hsw; omega)

theorem consumeOne_adv (F : EFormat) (hs : SaneAll F) (c : Cur) (m : Mid) (hc : 1 ≤ c.n) :
    (F.consumeOne c m).Sat (fun p => p.1.n + 1 ≤ c.n) True := by
  unfold consumeOne
  refine .ite (fun h => .ok (skip_lt c _ hs.space_ne h)) fun _ => ?_
  have lift : ∀ {α : Type} {r : PRes (α × Cur)} (f : α → Mid), r.Sat (fun p => p.2.n + 1 ≤ c.n) True →
      (liftStep r f).Sat (fun p => p.1.n + 1 ≤ c.n) True := fun f hr => liftStep_sat f hr fun _ _ h => h
  refine alt_sat _ _ (lift _ ?_) fun _ => alt_sat _ _ (lift _ ?_) fun _ =>
    alt_sat _ _ (lift _ (consumePunct_adv F hs c)) fun _ => alt_sat _ _ (lift _ (consumeStamp_adv F hs c)) fun _ =>
    alt_sat _ _ (lift _ ?_) fun _ => .raise _
  · rw [consumeBudget_eq]
    exact readItem_adv1 F hs.space_ne 3 _ _ _ hs.budgetL_ne hs.budgetSep_ne _ c hc
  · exact (parseTerm_adv F hs.toSane (termFuel c) c).imp (fun _ h => h) fun _ => by
      simp only [termFuel, Cur.n]; omega
  · rw [consumeTruth_eq]
    exact readItem_adv1 F hs.space_ne 2 _ _ _ hs.truthL_ne hs.truthSep_ne _ c hc

theorem buildMid_sat (F : EFormat) (hs : SaneAll F) : ∀ (fuel : Nat) (c : Cur) (m : Mid),
    (F.buildMid fuel c m).Sat (fun _ => True) (c.n + 2 ≤ fuel)
  | 0, c, m => .fuel (by omega)
  | fuel + 1, c, m => by
    unfold buildMid
    refine .ite (fun _ => .ok trivial) fun _ => .ite (fun _ => .ok trivial) fun h2 => ?_
    have hc : 1 ≤ (F.skipSpaces c).n := by
      cases hr : (F.skipSpaces c).rest with
      | nil => simp [Cur.canConsume, hr] at h2
      | cons x xs => simp [Cur.n, hr]
    have hle := skipSpaces_n F c
    refine (consumeOne_adv F hs (F.skipSpaces c) m hc).elim ?_ .err (absurd trivial)
    rintro ⟨c2, m2⟩ (hlt : c2.n + 1 ≤ _)
    exact (buildMid_sat F hs fuel c2 m2).imp (fun _ h => h) (by omega)

theorem eparse_total (F : EFormat) (hs : SaneAll F) (input : Str) : (F.eparse input).total = true := by
  unfold eparse runState
  refine (buildMid_sat F hs (midFuel (Cur.ofEnv input)) (Cur.ofEnv input) {}).elim ?_ (fun _ => rfl)
    (absurd (by simp [midFuel, Cur.n]))
  rintro ⟨c, m⟩ -
  dsimp only
  rw [transformMid_eq]
  cases m.term <;> rfl

theorem parseMulti_total (F : EFormat) (hs : SaneAll F) : ∀ (s : PState) (inputs : List Str),
    ∀ r ∈ F.parseMultiAux s inputs, r.total = true
  | s, inputs, r, h => by
    rw [Props.C08.parseMultiAux_eq] at h
    obtain ⟨i, _, rfl⟩ := List.mem_map.mp h
    exact eparse_total F hs i

theorem truthDoor_total (F : EFormat) (hs : SaneAll F) (input : Str) : (F.parseTruthDoor input).total = true := by
  unfold parseTruthDoor
  rw [consumeTruth_eq]
  exact (readItem_adv F hs.space_ne 2 _ _ _ hs.truthSep_ne Truth.ofList (Cur.ofEnv input)).elim
    (fun p _ => eagerErr_total p.2 p.1) (fun _ => rfl) (absurd trivial)

theorem budgetDoor_total (F : EFormat) (hs : SaneAll F) (input : Str) : (F.parseBudgetDoor input).total = true := by
  unfold parseBudgetDoor
  rw [consumeBudget_eq]
  exact (readItem_adv F hs.space_ne 3 _ _ _ hs.budgetSep_ne Budget.ofList (Cur.ofEnv input)).elim
    (fun p _ => eagerErr_total p.2 p.1) (fun _ => rfl) (absurd trivial)

end Narsese
