/-
  C05 — totality of the lexical parser: term segmentation.
  For every input and every format whose three recursive openers are non-empty: no slice is out of
  range, every successful segmentation consumes at least one and at most `|env|` characters, and
  `3·|env| + 2` fuel is never exhausted.
-/
import NarseseModel.Lex
import Proofs.Sat
import Proofs.Strings
set_option autoImplicit false

namespace Narsese
open LFormat

theorem LTerms.ofList_toList : ∀ ts : LTerms, LTerms.ofList ts.toList = ts
  | .nil => rfl
  | .cons t ts => by simp [LTerms.toList, LTerms.ofList, LTerms.ofList_toList ts]

/-- `join_lest_multiple_separators` on a term and its two optional items -/
theorem joinLest_eq (sp a b c : Str) :
    joinLest sp [a, b, c] = a ++ ((if b.isEmpty then [] else sp ++ b) ++ (if c.isEmpty then [] else sp ++ c)) := by
  simp only [joinLest, List.filter]
  cases b <;> cases c <;> simp

/-- the openers whose consumption drives the recursion are non-empty -/
structure LSane (L : LFormat) : Prop where
  compL_ne : L.compL ≠ []
  stmtL_ne : L.stmtL ≠ []
  sets_ne : ∀ p ∈ L.setBrackets, p.1 ≠ []

def lSaneB (L : LFormat) : Bool :=
  !L.compL.isEmpty && !L.stmtL.isEmpty && L.setBrackets.all (fun p => !p.1.isEmpty)

theorem lSane_of_bool (L : LFormat) (h : lSaneB L = true) : LSane L := by
  simp only [lSaneB, Bool.and_eq_true, Bool.not_eq_true', List.isEmpty_eq_false_iff, List.all_eq_true] at h
  exact ⟨h.1.1, h.1.2, fun p hp => h.2 p hp⟩

/-- no panic; a successful segmentation consumed `1 ≤ n ≤ |env|` characters; `bound` fuel suffices -/
def LGood (env : Str) (r : Res (LTerm × Nat)) (bound fuel : Nat) : Prop :=
  r ≠ .panic ∧ (∀ t n, r = .ok (t, n) → 1 ≤ n ∧ n ≤ env.length) ∧ (bound ≤ fuel → r ≠ .fuel)

/-- the component loop: the border only moves right and stays inside the input -/
def CGood (env : Str) (tb : Nat) (r : Res (List LTerm × Nat)) (fuel : Nat) : Prop :=
  r ≠ .panic ∧ (∀ ts b, r = .ok (ts, b) → tb ≤ b ∧ b ≤ env.length) ∧
  (3 * (env.length - tb) + 3 ≤ fuel → r ≠ .fuel)

/-- `LGood` and `CGood` are `Sat` with a postcondition on the second component -/
theorem sat_iff {α : Type} {r : Res (α × Nat)} {post : Nat → Prop} {live : Prop} :
    Res.Sat (fun p => post p.2) live r ↔ r ≠ .panic ∧ (∀ a n, r = .ok (a, n) → post n) ∧ (live → r ≠ .fuel) := by
  constructor
  · intro h
    cases h with
    | ok h => exact ⟨by simp, fun a n e => by cases e; exact h, by simp⟩
    | err => exact ⟨by simp, by simp, by simp⟩
    | fuel h => exact ⟨by simp, by simp, fun e => absurd e h⟩
  · intro h
    cases r with
    | ok p => exact .ok (h.2.1 p.1 p.2 rfl)
    | err => exact .err
    | panic => exact absurd rfl h.1
    | fuel => exact .fuel fun e => h.2.2 e rfl

theorem LGood.sat {env : Str} {r : Res (LTerm × Nat)} {bound fuel : Nat} (h : LGood env r bound fuel) :
    Res.Sat (fun p => 1 ≤ p.2 ∧ p.2 ≤ env.length) (bound ≤ fuel) r := sat_iff.2 h

theorem CGood.sat {env : Str} {tb : Nat} {r : Res (List LTerm × Nat)} {fuel : Nat} (h : CGood env tb r fuel) :
    Res.Sat (fun p => tb ≤ p.2 ∧ p.2 ≤ env.length) (3 * (env.length - tb) + 3 ≤ fuel) r := sat_iff.2 h

theorem matchPrefix_some {dict : List Str} {s k : Str} (h : matchPrefix dict s = some k) :
    k ∈ dict ∧ isPre k s = true :=
  ⟨List.mem_of_find?_eq_some h, List.find?_some (p := fun k => isPre k s) h⟩

theorem matchPrefixPair_some {dict : List (Str × Str)} {s : Str} {p : Str × Str}
    (h : matchPrefixPair dict s = some p) : p ∈ dict ∧ isPre p.1 s = true :=
  ⟨List.mem_of_find?_eq_some h, List.find?_some (p := fun q : Str × Str => isPre q.1 s) h⟩

theorem scanIdent_le (L : LFormat) : ∀ s : Str, L.scanIdent s ≤ s.length
  | [] => by simp [scanIdent]
  | c :: cs => by
    unfold scanIdent
    split
    · have := scanIdent_le L cs; simp; omega
    · simp

theorem sliceFrom_ok (env : Str) (a : Nat) (h : a ≤ env.length) : sliceFrom env a = .ok (env.drop a) := by
  simp [sliceFrom, h]

theorem segAtom_good (L : LFormat) (env : Str) (bound fuel : Nat) : LGood env (L.segAtom env) bound fuel := by
  unfold segAtom
  refine sat_iff.1 ?_
  cases hm : matchPrefix L.atomPrefixes env with
  | none => exact .err
  | some pre =>
    have hl := isPre_length _ _ (matchPrefix_some hm).2
    have hs := scanIdent_le L (env.drop pre.length)
    simp only [List.length_drop] at hs ⊢
    split
    · exact .err
    · next hne =>
      refine .ok ⟨?_, by omega⟩
      cases pre with
      | nil => simp only [List.isEmpty_nil, Bool.and_true, decide_eq_true_eq, List.length_nil] at hne hs ⊢; omega
      | cons a as => simp only [List.length_cons]; omega

mutual
  theorem segTerm_good (L : LFormat) (hs : LSane L) : ∀ (fuel : Nat) (env : Str),
      LGood env (L.segTerm fuel env) (3 * env.length + 2) fuel
    | 0, env => sat_iff.1 (.fuel (by omega))
    | fuel + 1, env => by
      unfold segTerm
      -- first `Ok` wins: every alternative has the same postcondition
      refine sat_iff.1 ?_
      refine (segSet_good L hs fuel env).sat.elim (fun _ h => .ok h) ?_ (fun hf => .fuel (by omega))
      refine (segCompound_good L hs fuel env).sat.elim (fun _ h => .ok h) ?_ (fun hf => .fuel (by omega))
      exact (segStatement_good L hs fuel env).sat.elim (fun _ h => .ok h) (segAtom_good L env _ _).sat
        (fun hf => .fuel (by omega))

  theorem segComponents_good (L : LFormat) (hs : LSane L) :
      ∀ (fuel : Nat) (right env : Str) (tb : Nat) (acc : List LTerm), tb ≤ env.length →
      CGood env tb (L.segComponents fuel right env tb acc) fuel
    | 0, right, env, tb, acc, _ => sat_iff.1 (.fuel (by omega))
    | fuel + 1, right, env, tb, acc, htb => by
      unfold segComponents
      refine sat_iff.1 ?_
      rw [sliceFrom_ok env tb htb]
      dsimp only
      split
      · next hp =>
        have := isPre_length _ _ hp
        simp only [List.length_drop] at this
        exact .ok ⟨by omega, by omega⟩
      · -- `tb'`: after an optional separator
        generalize hdef : (if isPre L.separator (env.drop tb) = true then tb + L.separator.length else tb) = tb'
        have htb' : tb ≤ tb' ∧ tb' ≤ env.length := by
          subst hdef
          split
          · next hp =>
            have := isPre_length _ _ hp
            simp only [List.length_drop] at this
            omega
          · omega
        clear hdef
        rw [sliceFrom_ok env tb' htb'.2]
        dsimp only
        refine (segTerm_good L hs fuel (env.drop tb')).sat.elim ?_ .err
          (fun hf => .fuel (by simp only [List.length_drop] at hf; omega))
        rintro ⟨t, n⟩ hn
        simp only [List.length_drop] at hn
        dsimp only
        refine (segComponents_good L hs fuel right env (tb' + n) (acc ++ [t]) (by omega)).sat.elim
          (fun _ hb => .ok ⟨by omega, hb.2⟩) .err (fun hf => .fuel (by omega))

  theorem segSet_good (L : LFormat) (hs : LSane L) : ∀ (fuel : Nat) (env : Str),
      LGood env (L.segSet fuel env) (3 * env.length + 1) fuel
    | 0, env => sat_iff.1 (.fuel (by omega))
    | fuel + 1, env => by
      unfold segSet
      refine sat_iff.1 ?_
      cases hm : matchPrefixPair L.setBrackets env with
      | none => exact .err
      | some p =>
        obtain ⟨l, r⟩ := p
        obtain ⟨hmem, hp⟩ := matchPrefixPair_some hm
        have hl := isPre_length _ _ hp
        have hl1 := List.length_pos_iff.mpr (hs.sets_ne _ hmem)
        dsimp only at hl hl1 ⊢
        refine (segTerm_good L hs fuel (env.drop l.length)).sat.elim ?_ .err
          (fun hf => .fuel (by simp only [List.length_drop] at hf; omega))
        rintro ⟨t, n⟩ hn
        simp only [List.length_drop] at hn
        dsimp only
        refine (segComponents_good L hs fuel r env (l.length + n) [t] (by omega)).sat.elim
          (fun _ hb => .ok ⟨by omega, hb.2⟩) .err (fun hf => .fuel (by omega))

  theorem segCompound_good (L : LFormat) (hs : LSane L) : ∀ (fuel : Nat) (env : Str),
      LGood env (L.segCompound fuel env) (3 * env.length + 1) fuel
    | 0, env => sat_iff.1 (.fuel (by omega))
    | fuel + 1, env => by
      unfold segCompound
      refine sat_iff.1 ?_
      cases hst : strip L.compL env with
      | none => exact .err
      | some afterL =>
        have hlen := strip_length _ _ _ hst
        have hl1 := List.length_pos_iff.mpr hs.compL_ne
        dsimp only
        cases hm : matchPrefix L.connecters afterL with
        | none => exact .err
        | some conn =>
          have hcl := isPre_length _ _ (matchPrefix_some hm).2
          dsimp only
          refine (segComponents_good L hs fuel L.compR env (L.compL.length + conn.length) [] (by omega)).sat.elim
            (fun _ hb => .ok ⟨by omega, hb.2⟩) .err (fun hf => .fuel (by omega))

  theorem segStatement_good (L : LFormat) (hs : LSane L) : ∀ (fuel : Nat) (env : Str),
      LGood env (L.segStatement fuel env) (3 * env.length + 1) fuel
    | 0, env => sat_iff.1 (.fuel (by omega))
    | fuel + 1, env => by
      unfold segStatement
      refine sat_iff.1 ?_
      cases hst : strip L.stmtL env with
      | none => exact .err
      | some afterL =>
        have hlen := strip_length _ _ _ hst
        have hl1 := List.length_pos_iff.mpr hs.stmtL_ne
        dsimp only
        refine (segTerm_good L hs fuel afterL).sat.elim ?_ .err (fun hf => .fuel (by omega))
        rintro ⟨subj, n1⟩ hn1
        dsimp only at hn1 ⊢
        rw [sliceFrom_ok env (L.stmtL.length + n1) (by omega)]
        dsimp only
        cases hm : matchPrefix L.copulas (env.drop (L.stmtL.length + n1)) with
        | none => exact .err
        | some cop =>
          have hcl := isPre_length _ _ (matchPrefix_some hm).2
          simp only [List.length_drop] at hcl
          dsimp only
          rw [sliceFrom_ok env (L.stmtL.length + n1 + cop.length) (by omega)]
          dsimp only
          refine (segTerm_good L hs fuel (env.drop (L.stmtL.length + n1 + cop.length))).sat.elim
            ?_ .err (fun hf => .fuel (by simp only [List.length_drop] at hf; omega))
          rintro ⟨pred, n2⟩ hn2
          simp only [List.length_drop] at hn2
          dsimp only
          rw [sliceFrom_ok env (L.stmtL.length + n1 + cop.length + n2) (by omega)]
          dsimp only
          split
          · next hpr =>
            have := isPre_length _ _ hpr
            simp only [List.length_drop] at this
            exact .ok ⟨by omega, by omega⟩
          · exact .err
end

theorem lparseTerm_total (L : LFormat) (hs : LSane L) (input : Str) : (L.lparseTerm input).total = true := by
  unfold lparseTerm
  dsimp only
  refine (segTerm_good L hs _ (L.idealize input)).sat.elim (fun _ _ => rfl) rfl (fun hf => absurd ?_ hf)
  simp only [lexFuel]; omega

end Narsese
