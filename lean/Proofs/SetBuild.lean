/-
  Building unordered containers: `HashSet` insertion as the code performs it (lookup by hash + `==`)
  coincides with de-duplication modulo `sem`; the result does not depend on insertion order or duplicates.
-/
import Proofs.EqHash
import NarseseModel.EParser
set_option autoImplicit false

namespace Narsese

theorem dedupSem_nodup : ∀ (xs acc : List Term), NoDupR sem acc → NoDupR sem (dedupSem acc xs)
  | [], acc, h => by simpa [dedupSem] using h
  | x :: xs, acc, h => by
    simp only [dedupSem]
    split
    · exact dedupSem_nodup xs acc h
    · next hn =>
      simp only [List.any_eq_true, not_exists, not_and, Bool.not_eq_true] at hn
      exact dedupSem_nodup xs (acc ++ [x]) (List.pairwise_append.mpr
        ⟨h, List.pairwise_singleton _ _, fun y hy z hz => List.mem_singleton.mp hz ▸ hn y hy⟩)

theorem dedupSem_acc : ∀ (xs acc : List Term), ∀ x ∈ acc, x ∈ dedupSem acc xs
  | [], _, _, h => h
  | z :: zs, acc, x, h => by
    unfold dedupSem
    split
    · exact dedupSem_acc zs acc x h
    · exact dedupSem_acc zs _ x (List.mem_append_left _ h)

theorem dedupSem_covers : ∀ (xs acc : List Term), ∀ x ∈ xs, ∃ y ∈ dedupSem acc xs, sem y x = true
  | z :: zs, acc, x, h => by
    unfold dedupSem
    rcases List.mem_cons.mp h with rfl | h
    · split
      · next hy =>
        obtain ⟨y, hy, hyx⟩ := List.any_eq_true.mp hy
        exact ⟨y, dedupSem_acc zs acc y hy, hyx⟩
      · exact ⟨x, dedupSem_acc zs _ x (by simp), sem_refl x⟩
    · split <;> exact dedupSem_covers zs _ x h

theorem dedupSem_sub : ∀ (xs acc : List Term) (x : Term), x ∈ dedupSem acc xs → x ∈ acc ∨ x ∈ xs
  | [], acc, x, h => .inl h
  | y :: ys, acc, x, h => by
    unfold dedupSem at h
    split at h
    · exact (dedupSem_sub ys acc x h).imp_right (List.mem_cons_of_mem y)
    · simpa [or_assoc] using dedupSem_sub ys (acc ++ [y]) x h

theorem mkSetSem_all (p : Term → Bool) (ts : List Term) (h : ts.all p = true) : (mkSetSem ts).all p = true := by
  rw [List.all_eq_true] at h ⊢
  exact fun x hx => (dedupSem_sub ts [] x hx).elim nofun (h x)

theorem mkSetSem_sameSet (xs : List Term) : SameSet (fun a b => sem a b = true) (mkSetSem xs) xs :=
  ⟨fun a ha => (dedupSem_sub xs [] a ha).elim nofun fun h => ⟨a, h, sem_refl a⟩,
   dedupSem_covers xs []⟩

/-- **insertion order and duplicates do not matter**: two component lists that denote the same set
(mutual inclusion modulo `sem`) build `sem`-equal set terms -/
theorem mkSet_order_dup_irrelevant (k : SetK) (xs ys : List Term)
    (h1 : ∀ x ∈ xs, ∃ y ∈ ys, sem x y = true) (h2 : ∀ y ∈ ys, ∃ x ∈ xs, sem x y = true) :
    sem (.setlike k (Terms.ofList (mkSetSem xs))) (.setlike k (Terms.ofList (mkSetSem ys))) = true := by
  refine sem_setlike_iff.mpr ⟨_, rfl, ?_⟩
  rw [Terms.toList_ofList, Terms.toList_ofList]
  have tr : ∀ {as : List Term}, ∀ a ∈ as, ∀ b c, sem a b = true → sem b c = true → sem a c = true :=
    fun a _ => sem_trans a
  exact ((mkSetSem_sameSet xs).trans_of tr ⟨h1, h2⟩).trans_of tr
    ((mkSetSem_sameSet ys).flip_of fun a _ => sem_symm_imp a)

/-- the hash-based insertion of the code equals de-duplication modulo `sem` (on built elements) -/
theorem extendSet_eq_dedupSem (h0 : List Tok → Nat) : ∀ (xs s : List Term),
    (∀ y ∈ s, built y = true) → (∀ x ∈ xs, built x = true) → extendSet h0 s xs = dedupSem s xs
  | [], s, _, _ => rfl
  | x :: xs, s, hs, hx => by
    have hxb : built x = true := hx x (.head _)
    have hxs : ∀ y ∈ xs, built y = true := fun y hy => hx y (.tail _ hy)
    simp only [extendSet, List.foldl_cons, dedupSem, insertSet, lookupSet_eq h0 s x hs hxb]
    split
    · exact extendSet_eq_dedupSem h0 xs s hs hxs
    · refine extendSet_eq_dedupSem h0 xs (s ++ [x]) (fun y hy => ?_) hxs
      rcases List.mem_append.mp hy with hy | hy
      · exact hs y hy
      · exact List.mem_singleton.mp hy ▸ hxb

theorem mkSet_eq_mkSetSem (h0 : List Tok → Nat) (xs : List Term) (hx : ∀ x ∈ xs, built x = true) :
    mkSet h0 xs = mkSetSem xs :=
  extendSet_eq_dedupSem h0 xs [] nofun hx

theorem builts_ofList (l : List Term) : builts (Terms.ofList l) = l.all built := by
  induction l with
  | nil => rfl
  | cons t ts ih => simp [Terms.ofList, builts, ih]

theorem Terms.isEmpty_ofList (l : List Term) : (Terms.ofList l).isEmpty = l.isEmpty := by
  cases l <;> rfl

theorem Terms.length_ofList (l : List Term) : (Terms.ofList l).length = l.length := by
  rw [← Terms.length_toList, Terms.toList_ofList]

theorem mkSetSem_ne_nil {ts : List Term} (h : ts ≠ []) : mkSetSem ts ≠ [] := by
  obtain ⟨x, hx⟩ := List.exists_mem_of_ne_nil ts h
  obtain ⟨y, hy, _⟩ := dedupSem_covers ts [] x hx
  exact List.ne_nil_of_mem hy

theorem mkSet_built (k : SetK) (xs : List Term) (hx : ∀ x ∈ xs, built x = true) :
    built (.setlike k (Terms.ofList (mkSetSem xs))) = true := by
  simp only [built, Bool.and_eq_true, builts_ofList, Terms.toList_ofList]
  exact ⟨mkSetSem_all built xs (List.all_eq_true.mpr hx), (nodupSem_iff _).mpr (dedupSem_nodup xs [] .nil)⟩

theorem dedupSem_nodup_id : ∀ (xs acc : List Term), NoDupR sem (acc ++ xs) → dedupSem acc xs = acc ++ xs
  | [], acc, _ => by simp [dedupSem]
  | x :: xs, acc, h => by
    have hx : acc.any (fun y => sem y x) = false := by
      rw [List.any_eq_false]
      intro y hy
      simp [(List.pairwise_append.mp h).2.2 y hy x List.mem_cons_self]
    simp only [dedupSem, hx, Bool.false_eq_true, if_false]
    have := dedupSem_nodup_id xs (acc ++ [x]) (by simpa using h)
    simpa using this

theorem mkSetSem_nodup_id (ts : List Term) (h : nodupSem ts = true) : mkSetSem ts = ts := by
  have := dedupSem_nodup_id ts [] (by simpa using (nodupSem_iff ts).mp h)
  simpa [mkSetSem] using this

end Narsese
