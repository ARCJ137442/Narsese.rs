/-
  One notion of "what a result satisfies" (`Res.Sat` for the lexical parser, `PRes.Sat` for the enum parser), with
  the eliminator that carries it through the
  `match r with | .ok a => … | .err => .err | .panic => .panic | .fuel => .fuel` continuations the model writes out
  at every call; the same step for results known to be `total` (fold); and: building an error never panics.
-/
import NarseseModel.EParser
set_option autoImplicit false

namespace Narsese

theorem windowOk_eq_true (len head : Nat) : windowOk len head = true := by
  unfold windowOk
  simp only [Bool.and_eq_true, decide_eq_true_eq]
  split <;> split <;> omega

theorem raise_eq_err {α : Type} (c : Cur) : (raise c : PRes α) = .err c := by
  simp [raise, windowOk_eq_true]

theorem eagerErr_eq_ok {α : Type} (c : Cur) (a : α) : EFormat.eagerErr c a = .ok a := by
  simp [EFormat.eagerErr, windowOk_eq_true]

theorem eagerErr_total {α : Type} (c : Cur) (a : α) : (EFormat.eagerErr c a).toRes.total = true := by
  rw [eagerErr_eq_ok]; rfl


/-- The shape of every totality invariant: the outcome is `Ok` of a value satisfying `post`, or `Err`, or —
only when not `live` — out of fuel; never a panic. -/
inductive Res.Sat {α : Type} (post : α → Prop) (live : Prop) : Res α → Prop
  | ok {a : α} : post a → Sat post live (.ok a)
  | err : Sat post live .err
  | fuel : ¬ live → Sat post live .fuel

/-- A parser step `match r with | .ok a => k a | .err => .. | .panic => .panic | .fuel => .fuel` on a
sub-result `r` with guarantee `h`: `h.elim` abstracts `r` in the goal, the panic arm is gone, and where the
step passes `Err` and `fuel` on, the last two arguments are `.err` and `fun hf => .fuel (..)`. -/
@[elab_as_elim]
theorem Res.Sat.elim {α : Type} {post : α → Prop} {live : Prop} {motive : Res α → Prop} {r : Res α}
    (h : r.Sat post live) (ok : ∀ a, post a → motive (.ok a)) (err : motive .err) (fuel : ¬ live → motive .fuel) :
    motive r := by
  cases h with
  | ok h => exact ok _ h
  | err => exact err
  | fuel h => exact fuel h

/-- the same step on a sub-result known to be `total` (`Res.total r = true`: `r` is `Ok` or `Err`): only the `Ok` and
`Err` arms are left -/
@[elab_as_elim]
theorem Res.total_elim {α : Type} {motive : Res α → Prop} {r : Res α} (h : r.total = true)
    (ok : ∀ a, motive (.ok a)) (err : motive .err) : motive r := by
  cases r with
  | ok a => exact ok a
  | err => exact err
  | panic => cases h
  | fuel => cases h

theorem Res.map_total {α β : Type} {x : Res α} {f : α → β} (hx : x.total = true) : (x.map f).total = true :=
  Res.total_elim hx (fun _ => rfl) rfl

theorem Res.bind_total {α β : Type} {x : Res α} {f : α → Res β} (hx : x.total = true)
    (hf : ∀ a, (f a).total = true) : (x.bind f).total = true :=
  Res.total_elim hx hf rfl

theorem Res.bind_ok {α β : Type} {x : Res α} {f : α → Res β} {b : β} (h : x.bind f = .ok b) :
    ∃ a, x = .ok a ∧ f a = .ok b := by
  cases x with
  | ok a => exact ⟨a, rfl, h⟩
  | _ => cases h

theorem Res.map_ok {α β : Type} {x : Res α} {f : α → β} {b : β} (h : x.map f = .ok b) : ∃ a, x = .ok a ∧ b = f a := by
  cases x with
  | ok a => cases h; exact ⟨a, rfl, rfl⟩
  | _ => cases h

/-- the same for the enum parser's results, which remember where they failed (`live := False` is a statement about
successes and panics only) -/
inductive PRes.Sat {α : Type} (post : α → Prop) (live : Prop) : PRes α → Prop
  | ok {a : α} : post a → Sat post live (.ok a)
  | err (h : Cur) : Sat post live (.err h)
  | fuel : ¬ live → Sat post live .fuel

@[elab_as_elim]
theorem PRes.Sat.elim {α : Type} {post : α → Prop} {live : Prop} {motive : PRes α → Prop} {r : PRes α}
    (h : r.Sat post live) (ok : ∀ a, post a → motive (.ok a)) (err : ∀ h, motive (.err h))
    (fuel : ¬ live → motive .fuel) : motive r := by
  cases h with
  | ok h => exact ok _ h
  | err h => exact err h
  | fuel h => exact fuel h

namespace PRes.Sat
variable {α : Type} {post post' : α → Prop} {live live' : Prop} {r : PRes α}

theorem imp (h : r.Sat post live) (hpost : ∀ a, post a → post' a) (hlive : live' → live) : r.Sat post' live' :=
  h.elim (fun a ha => .ok (hpost a ha)) .err fun hf => .fuel fun hl => hf (hlive hl)

theorem ite {c : Prop} [Decidable c] {t e : PRes α} (ht : c → t.Sat post live) (he : ¬ c → e.Sat post live) :
    (if c then t else e).Sat post live := by
  split
  · exact ht ‹_›
  · exact he ‹_›

theorem raise (c : Cur) : (raise c : PRes α).Sat post live := by
  rw [raise_eq_err]; exact .err c

theorem of_ok {a : α} (h : (PRes.ok a).Sat post live) : post a := by
  cases h; assumption

theorem ne_panic (h : r.Sat post live) : r ≠ .panic := by
  rintro rfl
  cases h

theorem ne_fuel (h : r.Sat post live) (hl : live) : r ≠ .fuel := by
  rintro rfl
  cases h with | fuel h => exact h hl

end PRes.Sat

open EFormat in
theorem alt_sat {α : Type} {post : α → Prop} {live : Prop} (guard : Cur → Bool) {run : PRes α} {k : Cur → PRes α}
    (now : Cur) (hr : run.Sat post live) (hk : ∀ x, (k x).Sat post live) :
    (alt guard run k now).Sat post live := by
  unfold alt
  exact .ite (fun _ => hr.elim (fun _ h => .ok h) hk .fuel) fun _ => hk now

open EFormat in
theorem liftStep_sat {α : Type} {post : α × Cur → Prop} {post' : Cur × Mid → Prop} {live : Prop}
    {r : PRes (α × Cur)} (f : α → Mid) (hr : r.Sat post live) (h : ∀ a c', post (a, c') → post' (c', f a)) :
    (liftStep r f).Sat post' live :=
  hr.elim (fun p hq => .ok (h p.1 p.2 hq)) .err .fuel

end Narsese
