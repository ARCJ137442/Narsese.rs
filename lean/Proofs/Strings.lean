/-
  Keyword matching (`strip`, `isPre`, `isSuf`, `incompat`, `compat`) in terms of the list prefix and suffix
  orders, so that the facts about it are the library's facts about `<+:` and `<:+`; which entry a first-match
  lookup (`find?`) selects in an ordered table (`find?_at`) and in one with pairwise incompatible keys
  (`pairwiseB`, `find?_of_incompat`); joined texts (`joinWith` as first piece and tail, `mem_joinWith`); and the few
  facts about lists that several developments use.
-/
import NarseseModel.Basic
set_option autoImplicit false

namespace Narsese

theorem nonempty_isEmpty {α : Type} {l : List α} (h : l ≠ []) : l.isEmpty = false :=
  List.isEmpty_eq_false_iff.mpr h

theorem ne_nil_length {α : Type} {l : List α} (h : l ≠ []) : 1 ≤ l.length :=
  List.length_pos_iff.mpr h

theorem all_take {α : Type} (p : α → Bool) (n : Nat) (l : List α) (h : l.all p = true) : (l.take n).all p = true :=
  List.all_eq_true.mpr fun x hx => List.all_eq_true.mp h x (List.mem_of_mem_take hx)

theorem isEmpty_append (a b : Str) : (a ++ b).isEmpty = (a.isEmpty && b.isEmpty) := by
  cases a <;> rfl

theorem strip_eq_some_iff : ∀ {k s r : Str}, strip k s = some r ↔ s = k ++ r
  | [], s, r => by simp [strip]
  | _ :: _, [], r => by simp [strip]
  | a :: k, c :: s, r => by
    simp only [strip, List.cons_append, List.cons.injEq]
    split
    · next h => subst h; simp [strip_eq_some_iff]
    · next h => simp [Ne.symm h]

theorem strip_some {k s r : Str} (h : strip k s = some r) : s = k ++ r := strip_eq_some_iff.mp h

theorem strip_append (k r : Str) : strip k (k ++ r) = some r := strip_eq_some_iff.mpr rfl

theorem strip_length (k s r : Str) (h : strip k s = some r) : s.length = k.length + r.length := by
  rw [strip_some h, List.length_append]

theorem isPre_iff_prefix {k s : Str} : isPre k s = true ↔ k <+: s := by
  rw [isPre, Option.isSome_iff_exists]
  exact exists_congr fun r => strip_eq_some_iff.trans eq_comm

theorem isPre_iff (k s : Str) : isPre k s = true ↔ ∃ r, s = k ++ r :=
  isPre_iff_prefix.trans (exists_congr fun _ => eq_comm)

theorem isPre_append (k r : Str) : isPre k (k ++ r) = true := isPre_iff_prefix.mpr (List.prefix_append k r)

theorem isPre_nil {k : Str} (h : k ≠ []) : isPre k [] = false := by
  cases k with
  | nil => exact absurd rfl h
  | cons _ _ => rfl

theorem strip_none_of_not_isPre {k s : Str} (h : isPre k s = false) : strip k s = none := by
  unfold isPre at h
  cases hs : strip k s with
  | none => rfl
  | some r => simp [hs] at h

theorem isPre_length (k s : Str) (h : isPre k s = true) : k.length ≤ s.length := (isPre_iff_prefix.mp h).length_le

theorem isPre_app_compat {a s r : Str} (h : isPre a (s ++ r) = true) : compat a s = true := by
  simp only [compat, Bool.or_eq_true, isPre_iff_prefix] at h ⊢
  exact List.prefix_or_prefix_of_prefix h (List.prefix_append s r)

theorem not_isPre_of_not_compat {a s : Str} (h : compat a s = false) (r : Str) : isPre a (s ++ r) = false := by
  cases hp : isPre a (s ++ r) with
  | false => rfl
  | true => rw [isPre_app_compat hp] at h; simp at h

theorem not_isPre_of_incompat {a b : Str} (h : incompat a b = true) (r : Str) : isPre a (b ++ r) = false :=
  not_isPre_of_not_compat (by simpa [incompat, compat] using h) r

theorem not_isPre_head {k : Str} {c : Char} {cs : Str} (h : ∀ x ∈ k.head?, x ≠ c) (hk : k ≠ []) :
    isPre k (c :: cs) = false := by
  cases k with
  | nil => exact absurd rfl hk
  | cons x k =>
    have : x ≠ c := h x (by simp)
    simp [isPre, strip, this]

theorem ne_of_test {α : Type} {p : α → Bool} {o : Option α} {c : α} (ho : ∀ y ∈ o, p y = false) (hc : p c = true) :
    ∀ y ∈ o, y ≠ c := by
  rintro y hy rfl
  rw [ho y hy] at hc
  cases hc

theorem not_isPre_of_head {p : Char → Bool} {k : Str} {c : Char} (hk : k ≠ []) (hp : ∀ y ∈ k.head?, p y = false)
    (hc : p c = true) (cs : Str) : isPre k (c :: cs) = false :=
  not_isPre_head (ne_of_test hp hc) hk

/-- the Boolean form in which the format conditions say that a keyword does not begin with a character passing `p` -/
theorem head_all_not {p : Char → Bool} {k : Str} :
    k.head?.all (fun y => !p y) = true ↔ ∀ y ∈ k.head?, p y = false := by
  cases k <;> simp

theorem not_isPre_extend {e s : Str} (h1 : isPre e s = false) (h2 : e.length ≤ s.length) (r : Str) :
    isPre e (s ++ r) = false := by
  rw [Bool.eq_false_iff, ne_eq, isPre_iff_prefix] at h1 ⊢
  exact fun hp => h1 (List.prefix_of_prefix_length_le hp (List.prefix_append s r) h2)

theorem isSuf_iff_suffix {k s : Str} : isSuf k s = true ↔ k <:+ s := isPre_iff_prefix.trans List.reverse_prefix

theorem isSuf_iff (k s : Str) : isSuf k s = true ↔ ∃ A, s = A ++ k :=
  isSuf_iff_suffix.trans (exists_congr fun _ => eq_comm)

theorem isSuf_append (k X : Str) : isSuf k (X ++ k) = true := isSuf_iff_suffix.mpr (List.suffix_append X k)

def sufs : Str → List Str
  | [] => []
  | c :: cs => (c :: cs) :: sufs cs

theorem mem_sufs : ∀ {l s : Str}, s ∈ sufs l → ∃ c cs, s = c :: cs ∧ c ∈ l
  | x :: xs, s, hs => by
    rcases List.mem_cons.mp hs with rfl | hs
    · exact ⟨x, xs, rfl, List.mem_cons_self⟩
    · obtain ⟨c, cs, rfl, hc⟩ := mem_sufs hs
      exact ⟨c, cs, rfl, List.mem_cons_of_mem _ hc⟩

def pairwiseB {α : Type} (p : α → α → Bool) : List α → Bool
  | [] => true
  | x :: xs => xs.all (p x) && pairwiseB p xs

theorem pairwiseB_iff {α : Type} {p : α → α → Bool} : ∀ {l : List α},
    pairwiseB p l = true ↔ l.Pairwise (fun a b => p a b = true)
  | [] => by simp [pairwiseB]
  | x :: xs => by simp only [pairwiseB, Bool.and_eq_true, List.all_eq_true, List.pairwise_cons, pairwiseB_iff (l := xs)]

theorem pairwiseB_get {α : Type} (p : α → α → Bool) (l : List α) (h : pairwiseB p l = true) (i j : Nat)
    (hij : i < j) (a b : α) (ha : l[i]? = some a) (hb : l[j]? = some b) : p a b = true := by
  obtain ⟨hi, rfl⟩ := List.getElem?_eq_some_iff.mp ha
  obtain ⟨hj, rfl⟩ := List.getElem?_eq_some_iff.mp hb
  exact List.pairwise_iff_getElem.mp (pairwiseB_iff.mp h) i j hi hj hij

theorem pairwiseB_four {α : Type} {p : α → α → Bool} {a b c d : α} (h : pairwiseB p [a, b, c, d] = true) :
    p a b = true ∧ p a c = true ∧ p a d = true ∧ p b c = true ∧ p b d = true ∧ p c d = true := by
  simp only [pairwiseB, List.all_cons, List.all_nil, Bool.and_true, Bool.and_eq_true] at h
  exact ⟨h.1.1, h.1.2.1, h.1.2.2, h.2.1.1, h.2.1.2, h.2.2⟩

theorem find?_at {α : Type} (p : α → Bool) (l : List α) (j : Nat) (x : α) (hx : l[j]? = some x) (hp : p x = true)
    (hlt : ∀ i, i < j → ∀ y, l[i]? = some y → p y = false) : l.find? p = some x := by
  obtain ⟨hj, rfl⟩ := List.getElem?_eq_some_iff.mp hx
  refine List.find?_eq_some_iff_getElem.mpr ⟨hp, j, hj, rfl, fun i hi => ?_⟩
  rw [hlt i hi _ (List.getElem?_eq_getElem (Nat.lt_trans hi hj))]
  rfl

theorem find?_of_incompat {α : Type} (key : α → Str) {tbl : List α}
    (h : (tbl.map key).Pairwise (fun a b => incompat a b = true)) {x : α} (hx : x ∈ tbl) (X : Str) :
    tbl.find? (fun e => isPre (key e) (key x ++ X)) = some x := by
  induction tbl with
  | nil => cases hx
  | cons a as ih =>
    rw [List.map_cons, List.pairwise_cons] at h
    rcases List.mem_cons.mp hx with rfl | hx'
    · simp only [List.find?, isPre_append]
    · have : isPre (key a) (key x ++ X) = false := not_isPre_of_incompat (h.1 _ (List.mem_map_of_mem hx')) X
      simp only [List.find?, this, ih h.2 hx']

/-- every component preceded by the separator -/
def tailL (sep : Str) : List Str → Str
  | [] => []
  | s :: ss => sep ++ s ++ tailL sep ss

theorem joinWith_cons_tail (sep s : Str) (ss : List Str) : joinWith sep (s :: ss) = s ++ tailL sep ss := by
  induction ss generalizing s with
  | nil => simp [joinWith, tailL]
  | cons x xs ih => simp only [joinWith, tailL, ih x, List.append_assoc]

theorem mem_joinWith {sep : Str} {c : Char} : ∀ {xs : List Str}, c ∈ joinWith sep xs → c ∈ sep ∨ ∃ x ∈ xs, c ∈ x
  | [], h => by simp [joinWith] at h
  | [x], h => Or.inr ⟨x, by simp, by simpa [joinWith] using h⟩
  | x :: y :: ys, h => by
    simp only [joinWith, List.mem_append] at h
    rcases h with (h | h) | h
    · exact Or.inr ⟨x, by simp, h⟩
    · exact Or.inl h
    · rcases mem_joinWith h with h' | ⟨z, hz, hc⟩
      · exact Or.inl h'
      · exact Or.inr ⟨z, by simp [hz], hc⟩

end Narsese
