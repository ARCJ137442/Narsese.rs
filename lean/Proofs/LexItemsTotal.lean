/-
  C05 — totality of the lexical parser: `parse_items` and the entry points.
  The only slice whose bounds are not obviously ordered is `env[begin_index..right_border]`: the budget
  is segmented from the left, truth / stamp / punctuation from the right, and Rust panics if they cross.
  They cannot cross when the last character of the budget's closing bracket occurs in none of the
  right-hand items (their brackets, their alphabets, the punctuation marks) — a decidable condition on
  the format (`lItemsSaneB`), true for the three shipped formats.
-/
import Proofs.LexTotal
set_option autoImplicit false

namespace Narsese
open LFormat

theorem scanToRight_spec (right : Str) (verify : Char → Bool) :
    ∀ (s : Str) (n : Nat), scanToRight right verify s = some n →
      n ≤ s.length ∧ ∃ A, s.take n = A ++ right ∧ ∀ c ∈ A, verify c = true
  | [], n, h => nomatch h
  | c :: cs, n, h => by
    rw [scanToRight] at h
    split at h
    · next hp =>
      cases Option.some.inj h
      obtain ⟨r, hr⟩ := (isPre_iff _ _).mp hp
      exact ⟨isPre_length _ _ hp, [], by rw [hr, List.take_left, List.nil_append], nofun⟩
    · split at h
      · next hv =>
        obtain ⟨m, hrec, rfl⟩ := Option.map_eq_some_iff.mp h
        obtain ⟨h1, A, hA, hvA⟩ := scanToRight_spec right verify cs m hrec
        refine ⟨Nat.succ_le_succ h1, c :: A, by rw [List.take_succ_cons, hA, List.cons_append], fun x hx => ?_⟩
        rcases List.mem_cons.mp hx with rfl | hx
        · exact hv
        · exact hvA x hx
      · cases h

theorem scanToLeft_eq (k : Str) (verify : Char → Bool) (hk : k ≠ []) :
    ∀ s : Str, scanToLeft k verify s = scanToRight k verify s
  | [] => by simp only [scanToLeft, scanToRight, nonempty_isEmpty hk, Bool.false_eq_true, if_false]
  | c :: cs => by simp only [scanToLeft, scanToRight, scanToLeft_eq k verify hk cs]

theorem scanToLeft_nil (verify : Char → Bool) (s : Str) : scanToLeft [] verify s = some 0 := by
  cases s <;> rfl

theorem scanToLeft_spec (leftRev : Str) (verify : Char → Bool) (s : Str) (n : Nat)
    (h : scanToLeft leftRev verify s = some n) : n ≤ s.length ∧ ∀ c ∈ s.take n, verify c = true ∨ c ∈ leftRev := by
  by_cases hk : leftRev = []
  · subst hk
    rw [scanToLeft_nil] at h
    cases Option.some.inj h
    simp
  · rw [scanToLeft_eq _ _ hk] at h
    obtain ⟨h1, A, hA, hv⟩ := scanToRight_spec _ _ s n h
    refine ⟨h1, fun c hc => ?_⟩
    rw [hA, List.mem_append] at hc
    exact hc.imp (hv c) id

theorem segBracketsPrefix_spec (l r : Str) (verify : Char → Bool) (env txt : Str) (border : Nat)
    (h : segBracketsPrefix l r verify env = some (txt, border)) :
    border ≤ env.length ∧ ∃ A, env.take border = l ++ A ++ r := by
  unfold segBracketsPrefix at h
  cases hs : strip l env with
  | none => simp [hs] at h
  | some rest =>
    simp only [hs] at h
    cases hr : scanToRight r verify rest with
    | none => simp [hr] at h
    | some n =>
      simp only [hr, Option.some.injEq, Prod.mk.injEq] at h
      obtain ⟨h1, A, hA, _⟩ := scanToRight_spec r verify rest n hr
      have he := strip_some hs
      have hl := strip_length _ _ _ hs
      rw [← h.2]
      refine ⟨by omega, A, ?_⟩
      rw [he, List.take_length_add_append, hA, List.append_assoc]

theorem segBracketsSuffix_spec (l r : Str) (verify : Char → Bool) (env : Str) (hsuf : isSuf r env = true) :
    Res.Sat (fun o => ∀ p ∈ o, p.2 ≤ env.length ∧ ∀ c ∈ env.drop p.2, c ∈ r ∨ verify c = true ∨ c ∈ l) True
      (segBracketsSuffix l r verify env) := by
  obtain ⟨A, rfl⟩ := (isSuf_iff r env).mp hsuf
  unfold segBracketsSuffix
  simp only [List.length_append, Nat.le_add_left, if_true, Nat.add_sub_cancel, List.take_left']
  cases hs : scanToLeft l.reverse verify A.reverse with
  | none => exact .ok nofun
  | some n =>
    obtain ⟨h1, h2⟩ := scanToLeft_spec l.reverse verify A.reverse n hs
    simp only [List.length_reverse] at h1
    refine .ok fun p hp => ?_
    cases Option.mem_some_iff.mp hp
    refine ⟨by simp only []; omega, fun c hc => ?_⟩
    rw [List.drop_append_of_le_length (by omega), List.mem_append] at hc
    rcases hc with hc | hc
    · -- the scanned part of the content
      rw [show A.drop (A.length - n) = (A.reverse.take n).reverse by rw [List.reverse_take]; simp,
        List.mem_reverse] at hc
      exact .inr ((h2 c hc).imp_right (by simp))
    · exact .inl hc

/-- `B`: the right border of a budget whose closer ends in `z`; `lb`: the left border of a right-hand item, which
contains no `z` -/
theorem border_order (env P : Str) (z : Char) (B lb : Nat) (hBle : B ≤ env.length) (hP : env.take B = P ++ [z])
    (hfree : ∀ c ∈ env.drop lb, c ≠ z) : B ≤ lb := by
  refine Nat.le_of_not_lt fun hlt => ?_
  have hB : B = P.length + 1 := by
    have := congrArg List.length hP
    simp only [List.length_take, List.length_append, List.length_singleton] at this
    omega
  have henv : env = (P ++ [z]) ++ env.drop B := by rw [← hP, List.take_append_drop]
  have hlb : lb ≤ P.length := by omega
  have : z ∈ env.drop lb := by
    rw [henv, List.append_assoc, List.drop_append_of_le_length hlb]
    simp
  exact hfree z this rfl

/-- a right-hand item found in `e = env[..rb]` moves the right border left, but not past a budget ending in `z` -/
theorem border_step {α : Type} (env : Str) (z : Char) (rb : Nat) (hrb : rb ≤ env.length) {e : Str}
    (he : e = env.take rb) (o : Option (α × Nat)) (ho : ∀ p ∈ o, p.2 ≤ e.length ∧ ∀ c ∈ e.drop p.2, c ≠ z) :
    (o.map (·.2)).getD rb ≤ rb ∧
    ∀ B P, B ≤ rb → env.take B = P ++ [z] → B ≤ (o.map (·.2)).getD rb := by
  have hlen : e.length = rb := by rw [he, List.length_take, Nat.min_eq_left hrb]
  cases o with
  | none => exact ⟨Nat.le_refl _, fun B P h _ => h⟩
  | some p =>
    obtain ⟨h1, h2⟩ := ho p rfl
    refine ⟨hlen ▸ h1, fun B P hB hP => ?_⟩
    exact border_order e P z B p.2 (hlen ▸ hB) (by rw [he, List.take_take, Nat.min_eq_left hB]; exact hP) h2

/-- decidable: the last character of the budget's closing bracket occurs in no right-hand item -/
def lItemsSaneB (L : LFormat) : Bool :=
  match L.budgetR.getLast? with
  | none => false
  | some z =>
    !L.truthL.contains z && !L.truthR.contains z && !inRanges L.isTruthTbl z &&
    L.stampBrackets.all (fun p => !p.1.contains z && !p.2.contains z) && !inRanges L.isStampTbl z &&
    L.punctuations.all (fun p => !p.contains z)

structure LItemsSane (L : LFormat) : Prop where
  term : LSane L
  items : lItemsSaneB L = true

theorem matchSuffix_some {dict : List Str} {s k : Str} (h : matchSuffix dict s = some k) :
    k ∈ dict ∧ isSuf k s = true :=
  ⟨List.mem_of_find?_eq_some h, List.find?_some (p := fun k => isSuf k s) h⟩

theorem matchSuffixPair_some {dict : List (Str × Str)} {s : Str} {p : Str × Str}
    (h : matchSuffixPair dict s = some p) : p ∈ dict ∧ isSuf p.2 s = true :=
  ⟨List.mem_of_find?_eq_some h, List.find?_some (p := fun q : Str × Str => isSuf q.2 s) h⟩

theorem slice_ok (env : Str) (a b : Nat) (h1 : a ≤ b) (h2 : b ≤ env.length) :
    slice env a b = .ok ((env.take b).drop a) := by
  simp [slice, h1, h2]

theorem rightItem_free {l r : Str} {verify : Char → Bool} {z : Char} (hl : z ∉ l) (hr : z ∉ r) (hv : verify z = false)
    {env : Str} {o : Option (Str × Nat)}
    (h : ∀ p ∈ o, p.2 ≤ env.length ∧ ∀ c ∈ env.drop p.2, c ∈ r ∨ verify c = true ∨ c ∈ l) :
    ∀ p ∈ o, p.2 ≤ env.length ∧ ∀ c ∈ env.drop p.2, c ≠ z := by
  intro p hp
  refine ⟨(h p hp).1, fun c hc e => ?_⟩
  subst e
  rcases (h p hp).2 c hc with h | h | h
  · exact hr h
  · exact Bool.false_ne_true (hv ▸ h)
  · exact hl h

theorem parseItems_total (L : LFormat) (hs : LItemsSane L) (env : Str) : (L.parseItems env).total = true := by
  have hz := hs.items
  unfold lItemsSaneB at hz
  cases hzl : L.budgetR.getLast? with
  | none => simp [hzl] at hz
  | some z =>
    simp only [hzl, Bool.and_eq_true, Bool.not_eq_true', List.all_eq_true, List.contains_eq_mem,
      decide_eq_false_iff_not] at hz
    obtain ⟨⟨⟨⟨⟨hz1, hz2⟩, hz3⟩, hz4⟩, hz5⟩, hz6⟩ := hz
    -- the budget's border: position B-1 holds z
    have hbud : ∀ p ∈ L.segBudget env, p.2 ≤ env.length ∧ ∃ P, env.take p.2 = P ++ [z] := by
      intro p h
      unfold segBudget at h
      obtain ⟨q, hb, rfl⟩ := Option.map_eq_some_iff.mp h
      obtain ⟨h1, A, hA⟩ := segBracketsPrefix_spec _ _ _ _ _ _ hb
      obtain ⟨R', hR'⟩ := List.getLast?_eq_some_iff.mp hzl
      exact ⟨h1, L.budgetL ++ A ++ R', by simp only [hA, hR', List.append_assoc]⟩
    -- the three right-hand items contain no `z`
    have htruth : ∀ e : Str, Res.Sat (fun o => ∀ p ∈ o, p.2 ≤ e.length ∧ ∀ c ∈ e.drop p.2, c ≠ z) True (L.segTruth e) := by
      intro e
      unfold segTruth
      split
      · next hsuf =>
        refine (segBracketsSuffix_spec L.truthL L.truthR (inRanges L.isTruthTbl) e hsuf).elim (fun o ho => .ok ?_) .err
          (fun h => absurd trivial h)
        intro p hp
        obtain ⟨q, hq, rfl⟩ := Option.map_eq_some_iff.mp hp
        exact rightItem_free hz1 hz2 hz3 ho q hq
      · exact .ok nofun
    have hstamp : ∀ e : Str, Res.Sat (fun o => ∀ p ∈ o, p.2 ≤ e.length ∧ ∀ c ∈ e.drop p.2, c ≠ z) True (L.segStamp e) := by
      intro e
      unfold segStamp
      cases hm : matchSuffixPair L.stampBrackets e with
      | none => exact .ok nofun
      | some p =>
        obtain ⟨hmem, hsuf⟩ := matchSuffixPair_some hm
        obtain ⟨l, r⟩ := p
        dsimp only
        exact (segBracketsSuffix_spec l r (inRanges L.isStampTbl) e hsuf).elim
          (fun o ho => .ok (rightItem_free (hz4 _ hmem).1 (hz4 _ hmem).2 hz5 ho)) .err (fun h => absurd trivial h)
    have hpunct : ∀ e : Str, ∀ p ∈ L.segPunct e, p.2 ≤ e.length ∧ ∀ c ∈ e.drop p.2, c ≠ z := by
      intro e p hp
      unfold segPunct at hp
      obtain ⟨k, hm, rfl⟩ := Option.map_eq_some_iff.mp hp
      obtain ⟨hmem, hsuf⟩ := matchSuffix_some hm
      obtain ⟨A, rfl⟩ := (isSuf_iff _ _).mp hsuf
      refine ⟨by simp, fun c hc e => ?_⟩
      simp only [List.length_append, Nat.add_sub_cancel, List.drop_left'] at hc
      exact hz6 k hmem (e ▸ hc)
    unfold parseItems
    dsimp only
    refine (htruth env).elim (fun truth ht => ?_) rfl (fun h => absurd trivial h)
    obtain ⟨hrb1, hB1⟩ := border_step env z env.length (Nat.le_refl _) List.take_length.symm truth ht
    dsimp only
    generalize (truth.map (·.2)).getD env.length = rb1 at hrb1 hB1 ⊢
    rw [slice_ok env 0 rb1 (Nat.zero_le _) hrb1]
    simp only [List.drop_zero]
    refine (hstamp (env.take rb1)).elim (fun stamp hst => ?_) rfl (fun h => absurd trivial h)
    obtain ⟨hrb2, hB2⟩ := border_step env z rb1 hrb1 rfl stamp hst
    dsimp only
    generalize (stamp.map (·.2)).getD rb1 = rb2 at hrb2 hB2 ⊢
    rw [slice_ok env 0 rb2 (Nat.zero_le _) (by omega)]
    simp only [List.drop_zero]
    obtain ⟨hrb3, hB3⟩ := border_step env z rb2 (by omega) rfl _ (hpunct (env.take rb2))
    generalize ((L.segPunct (env.take rb2)).map (·.2)).getD rb2 = rb3 at hrb3 hB3 ⊢
    have hbegin : ((L.segBudget env).map (·.2)).getD 0 ≤ rb3 := by
      cases hb : L.segBudget env with
      | none => simp
      | some p =>
        obtain ⟨h1, P, hP⟩ := hbud p hb
        exact hB3 _ P (hB2 _ P (hB1 _ P h1 hP) hP) hP
    rw [slice_ok env _ rb3 hbegin (by omega)]
    dsimp only
    split
    · exact (segTerm_good L hs.term _ _).sat.elim (fun _ _ => rfl) rfl
        (fun h => absurd (by simp only [lexFuel]; omega) h)
    · rfl

theorem lparse_total (L : LFormat) (hs : LItemsSane L) (input : Str) : (L.lparse input).total = true := by
  unfold lparse
  refine Res.total_elim (parseItems_total L hs (L.idealize input)) (fun m => ?_) rfl
  dsimp only
  cases m.fold <;> rfl

end Narsese
