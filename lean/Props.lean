import Props.C01
import Props.C01b
import Props.C01c
import Props.C02
import Props.C02b
import Props.C03
import Props.C03a
import Props.C03b
import Props.C03c
import Props.C04
import Props.C04b
import Props.C04c
import Props.C05
import Props.C05b
import Props.C06
import Props.C07
import Props.C08
import Props.C09
import Props.C09b
import Props.C10
import Props.C10a
import Props.C10b
import Props.C11
import Props.C11b
import Props.C11c
import Props.C12
import Props.C12b
import Props.C13
import Props.C14
import Props.C15
import Props.C15b
import Props.C15c
import Props.C16
import Props.C16b
import Props.C17
