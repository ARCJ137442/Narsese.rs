/-
  C01 — enum Narsese survives format-then-parse in every shipped format.

  The elementary facts (the theorems over all terms, sentences and tasks are in `C01b.lean` and `C01c.lean`):
    * every number the printers emit reads back to itself: interval atoms (`usize`), fixed stamps
      (`isize`, including both extremes), truth / budget components (`Num.ok` numbers);
    * the ordered first-match keyword tables of the parser pick the intended entry on the formatter's
      own output for every connecter, copula and atom prefix of the three shipped formats; the four openers are
      pairwise incompatible; no keyword that can follow a name begins with a name character (ASCII, LaTeX).
-/
import Proofs.NumLemmas
import NarseseModel.EParser
import NarseseModel.EFormatter
import NarseseModel.Gen.Formats
set_option autoImplicit false

namespace Narsese.Props.C01
open Narsese EFormat

/-- interval atoms: the decimal text of a machine word reads back as that word -/
theorem interval_text_roundtrip (n : Nat) (h : n < 2 ^ 64) : parseUsize (showNat n) = some n :=
  parseUsize_showNat n h

/-- fixed stamps: every `isize`, including `isize::MIN` and `isize::MAX`, prints and reads back -/
theorem fixed_stamp_text_roundtrip (t : Int) (h1 : -(2 ^ 63 : Int) ≤ t) (h2 : t < 2 ^ 63) :
    parseIsize (showInt t) = some t := parseIsize_showInt t h1 h2

example : parseIsize (showInt (-(2 ^ 63))) = some (-(2 ^ 63)) := parseIsize_showInt _ (by decide) (by decide)
example : parseIsize (showInt (2 ^ 63 - 1)) = some (2 ^ 63 - 1) := parseIsize_showInt _ (by decide) (by decide)

/-- truth / budget components: a printed number (digits and `.` only) reads back bit-for-bit -/
theorem number_text_roundtrip (x : Num) (h : x.ok = true) : readNum x.text = some x := readNum_ok x h

/-- and it is accepted by the range check the parser applies -/
theorem number_in_range (x : Num) (h : x.ok = true) : x.in01 = true := in01_of_ok h

/-! ### ordered first-match tables choose the intended entry on the printed keyword -/

def selfMatch {β : Type} (tbl : List (Str × β)) : Bool :=
  tbl.all (fun e => match tbl.find? (fun p => isPre p.1 e.1) with
    | some p => p.1 == e.1
    | none => false)

/-- e.g. `&&` is tried before `&`, `--` before `-`, so the connecter the formatter wrote is the one found -/
theorem connecters_selfmatch : ∀ F ∈ [Gen.asciiE, Gen.latexE, Gen.hanE], selfMatch F.connecters = true := by
  decide +kernel

theorem copulas_selfmatch : ∀ F ∈ [Gen.asciiE, Gen.latexE, Gen.hanE], selfMatch F.copulaTable = true := by
  decide +kernel

/-- atom prefixes: every non-empty prefix is found before the (empty) word prefix -/
theorem atom_prefixes_selfmatch : ∀ F ∈ [Gen.asciiE, Gen.latexE, Gen.hanE], selfMatch F.atomHeads = true := by
  decide +kernel

/-- the four bracket openers of `parse_term` are pairwise prefix-incompatible, so dispatch is unambiguous -/
theorem openers_incompatible : ∀ F ∈ [Gen.asciiE, Gen.latexE, Gen.hanE],
    incompat F.extSetL F.intSetL = true ∧ incompat F.extSetL F.compL = true ∧ incompat F.extSetL F.stmtL = true ∧
    incompat F.intSetL F.compL = true ∧ incompat F.intSetL F.stmtL = true ∧ incompat F.compL F.stmtL = true := by
  decide +kernel

/-- no keyword that can follow a name starts with a name character (so atom names end where they should):
closers, separators, the parse-space and punctuation marks of ASCII and LaTeX -/
theorem name_terminators : ∀ F ∈ [Gen.asciiE, Gen.latexE],
    ∀ k ∈ [F.compR, F.extSetR, F.intSetR, F.stmtR, F.separator, F.spaceParse, F.pJudgement, F.pGoal, F.pQuestion, F.pQuest],
      ∀ c ∈ k.head?, F.isName c = false := by
  decide +kernel

end Narsese.Props.C01
