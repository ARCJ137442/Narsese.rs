/-
  C03 — direct enum parsing and lexical parsing plus folding give the same value.

  Proved here: the enum and lexical format instances of the same name describe the SAME VOCABULARY
  for every constructor (re-decided on the tables regenerated from the crate on every run), and folding
  maps every vocabulary keyword to the constructor the enum parser builds for it (the two keyword→
  constructor tables coincide entry by entry; this is where the D4 copy-paste slip lived).
  That the two pipelines return the same value is `pipelines_agree_formatted` (`C03b.lean`, everything the
  enum formatter emits) and `pipelines_agree_every_spelling` (`C03c.lean` / `C09b.lean`, every spelling).
-/
import NarseseModel.Fold
import NarseseModel.Gen.Formats
import Props.C03a
set_option autoImplicit false

namespace Narsese.Props.C03
open Narsese EFormat

def sameSet {α : Type} [DecidableEq α] (a b : List α) : Bool :=
  a.all (fun x => b.contains x) && b.all (fun x => a.contains x) && a.length == b.length

/-- every prefix, connecter, set bracket, copula, punctuation, stamp form, truth/budget bracket and
separator of the enum table equals the corresponding lexical entry -/
def sameVocab (F : EFormat) (L : LFormat) : Bool :=
  sameSet L.atomPrefixes [F.preWord, F.prePlaceholder, F.preIVar, F.preDVar, F.preQVar, F.preInterval, F.preOperator] &&
  sameSet L.connecters [F.cExtInt, F.cIntInt, F.cExtDiff, F.cIntDiff, F.cProduct, F.cExtImg, F.cIntImg,
                        F.cConj, F.cDisj, F.cNeg, F.cSeqConj, F.cParConj] &&
  sameSet L.setBrackets [(F.extSetL, F.extSetR), (F.intSetL, F.intSetR)] &&
  (L.compL == F.compL && L.compR == F.compR && L.separator == F.separator) &&
  (L.stmtL == F.stmtL && L.stmtR == F.stmtR) &&
  sameSet L.copulas F.copulas &&
  sameSet L.punctuations [F.pJudgement, F.pGoal, F.pQuestion, F.pQuest] &&
  sameSet L.stampBrackets
    [([], F.stampL ++ F.stampPast ++ F.stampR), ([], F.stampL ++ F.stampPresent ++ F.stampR),
     ([], F.stampL ++ F.stampFuture ++ F.stampR), (F.stampL ++ F.stampFixed, F.stampR)] &&
  (L.truthL == F.truthL && L.truthR == F.truthR && L.truthSep == F.truthSep) &&
  (L.budgetL == F.budgetL && L.budgetR == F.budgetR && L.budgetSep == F.budgetSep) &&
  (L.spaceTerms == F.spaceTerms && L.spaceItems == F.spaceItems)

theorem sameVocab_ascii : sameVocab Gen.asciiE Gen.asciiL = true := by decide +kernel
theorem sameVocab_latex : sameVocab Gen.latexE Gen.latexL = true := by decide +kernel
theorem sameVocab_han : sameVocab Gen.hanE Gen.hanL = true := by decide +kernel

/-- keywords of one class are pairwise distinct in each shipped format, so "first entry equal to the
keyword" (fold) and "the entry for that constructor" coincide -/
def distinct {α : Type} [DecidableEq α] : List α → Bool
  | [] => true
  | x :: xs => !xs.contains x && distinct xs

theorem fold_keys_distinct :
    (∀ F ∈ [Gen.asciiE, Gen.latexE, Gen.hanE],
      distinct (F.foldConnTable.map (·.1)) = true ∧ distinct (F.foldAtomTable.map (·.1)) = true ∧
      distinct (F.copulaTable.map (·.1)) = true ∧ (F.extSetL, F.extSetR) ≠ (F.intSetL, F.intSetR)) := by
  decide +kernel

/-- consequently every connecter of a shipped format folds to ITS constructor class
(e.g. the intensional-difference connecter to `intDiff`, never `extDiff`) -/
theorem fold_connecter_hits :
    ∀ F ∈ [Gen.asciiE, Gen.latexE, Gen.hanE], ∀ e ∈ F.foldConnTable,
      F.foldConnTable.find? (fun x => e.1 = x.1) = some e := by
  decide +kernel

theorem fold_intDiff (F : EFormat) (hF : F ∈ [Gen.asciiE, Gen.latexE, Gen.hanE]) (a b : Term) :
    F.foldCompound F.cIntDiff [a, b] = .ok (.bin .intDiff a b) := by
  have := fold_connecter_hits F hF (F.cIntDiff, .diff .intDiff) (by simp [foldConnTable])
  simp [foldCompound, this, buildCompound]

end Narsese.Props.C03
