/-
  C11 — ASCII output conforms to the published CommonNarsese grammar.

  Proved here: the ASCII keywords of BOTH format instances are exactly the OpenNARS-compatible lexicon
  (typed in below from the OpenNARS "Narsese Grammar (Input/Output Format)" page the source cites,
  plus the two CommonNarsese additions the README lists: retrospective equivalence `<\>` and the
  fixed stamp `:!n:`), re-decided on the tables regenerated from the crate on every run.
  The conformance of whole formatted strings to the README PEG is `ascii_conforms` (`Props/C11c.lean`); it is also
  checked on the real formatter outputs by the reference-grammar correspondence (see DESIGN.md §6, C11).
-/
import NarseseModel.Gen.Formats
set_option autoImplicit false

namespace Narsese.Props.C11
open Narsese

/-- the lexicon, as published -/
structure Lexicon where
  budget : Str × Str × Str          -- left, separator, right
  truth : Str × Str × Str
  punctuations : List Str            -- judgement, goal, question, quest
  tenses : List Str                  -- past, present, future (with their `:` brackets)
  fixedStamp : Str × Str             -- `:!` … `:`
  copulas : List Str                 -- in the order of `NarseseFormat::copulas()`
  variablePrefixes : List Str        -- independent, dependent, query
  intervalPrefix : Str
  operatorPrefix : Str
  placeholder : Str
  compoundBrackets : Str × Str
  statementBrackets : Str × Str
  extSet : Str × Str
  intSet : Str × Str
  separator : Str
  connecters : List Str              -- ext∩, int∩, ext−, int−, ×, /, \, ∧, ∨, ¬, seq∧, par∧
  deriving DecidableEq

def s (x : String) : Str := x.toList

def openNars : Lexicon where
  budget := (s "$", s ";", s "$")
  truth := (s "%", s ";", s "%")
  punctuations := [s ".", s "!", s "?", s "@"]
  tenses := [s ":\\:", s ":|:", s ":/:"]
  fixedStamp := (s ":!", s ":")
  copulas := [s "-->", s "<->", s "==>", s "<=>", s "{--", s "--]", s "{-]",
              s "=/>", s "=|>", s "=\\>", s "</>", s "<|>", s "<\\>"]
  variablePrefixes := [s "$", s "#", s "?"]
  intervalPrefix := s "+"
  operatorPrefix := s "^"
  placeholder := s "_"
  compoundBrackets := (s "(", s ")")
  statementBrackets := (s "<", s ">")
  extSet := (s "{", s "}")
  intSet := (s "[", s "]")
  separator := s ","
  connecters := [s "&", s "|", s "-", s "~", s "*", s "/", s "\\", s "&&", s "||", s "--", s "&/", s "&|"]

def lexiconOfEnum (F : EFormat) : Lexicon where
  budget := (F.budgetL, F.budgetSep, F.budgetR)
  truth := (F.truthL, F.truthSep, F.truthR)
  punctuations := [F.pJudgement, F.pGoal, F.pQuestion, F.pQuest]
  tenses := [F.stampL ++ F.stampPast ++ F.stampR, F.stampL ++ F.stampPresent ++ F.stampR,
             F.stampL ++ F.stampFuture ++ F.stampR]
  fixedStamp := (F.stampL ++ F.stampFixed, F.stampR)
  copulas := F.copulas
  variablePrefixes := [F.preIVar, F.preDVar, F.preQVar]
  intervalPrefix := F.preInterval
  operatorPrefix := F.preOperator
  placeholder := F.prePlaceholder
  compoundBrackets := (F.compL, F.compR)
  statementBrackets := (F.stmtL, F.stmtR)
  extSet := (F.extSetL, F.extSetR)
  intSet := (F.intSetL, F.intSetR)
  separator := F.separator
  connecters := [F.cExtInt, F.cIntInt, F.cExtDiff, F.cIntDiff, F.cProduct, F.cExtImg, F.cIntImg,
                 F.cConj, F.cDisj, F.cNeg, F.cSeqConj, F.cParConj]

/-- the enum ASCII instance uses exactly the published lexicon, constructor by constructor -/
theorem enum_lexicon_is_opennars : lexiconOfEnum Gen.asciiE = openNars := by decide +kernel

def permOf {α : Type} [DecidableEq α] (a b : List α) : Bool :=
  a.length == b.length && a.all (fun x => b.contains x) && b.all (fun x => a.contains x)

/-- the lexical ASCII instance (dictionaries are unordered collections) holds the same keywords -/
theorem lexical_lexicon_is_opennars :
    let L := Gen.asciiL
    let O := openNars
    (L.budgetL, L.budgetSep, L.budgetR) = O.budget ∧ (L.truthL, L.truthSep, L.truthR) = O.truth ∧
    permOf L.punctuations O.punctuations = true ∧
    permOf L.stampBrackets (O.fixedStamp :: O.tenses.map (fun t => ([], t))) = true ∧
    permOf L.copulas O.copulas = true ∧
    permOf L.atomPrefixes ([] :: O.placeholder :: O.intervalPrefix :: O.operatorPrefix :: O.variablePrefixes) = true ∧
    (L.compL, L.compR) = O.compoundBrackets ∧ (L.stmtL, L.stmtR) = O.statementBrackets ∧
    permOf L.setBrackets [O.extSet, O.intSet] = true ∧ L.separator = O.separator ∧
    permOf L.connecters O.connecters = true := by decide +kernel

/-- the copula order the model assumes is the order the crate's `copulas()` yields (tie obligation) -/
theorem copulas_order :
    Gen.asciiE.copulas = Gen.asciiCopulasOrder ∧ Gen.latexE.copulas = Gen.latexCopulasOrder ∧
    Gen.hanE.copulas = Gen.hanCopulasOrder := by decide +kernel

end Narsese.Props.C11
