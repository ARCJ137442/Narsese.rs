/-
  C16 — Typst rendering is total, whitespace-normalised and unambiguous.

  Proved here: `post_process_whitespace` puts ANY string into normal form (no leading / trailing /
  doubled whitespace), hence so is every rendering (all of them end with it); rendering is a total
  function of the model (structural recursion, no partial operation); the markup constants that
  distinguish constructors are pairwise distinct in the table generated from the crate.
  That two different well-formed values never render to the same text (`typst_injective`) is proved in
  `Props/C16b.lean`.
-/
import NarseseModel.Typst
import NarseseModel.Gen.Formats
set_option autoImplicit false

namespace Narsese.Props.C16
open Narsese TypstConsts

variable (C : TypstConsts)

/-- no two adjacent whitespace characters -/
def adjOK : Str → Bool
  | [] => true
  | [_] => true
  | a :: b :: r => !(C.isWs a && C.isWs b) && adjOK (b :: r)

/-- whitespace normal form: empty, or starts and ends with a non-whitespace char and has no doubled whitespace -/
def Normal (s : Str) : Prop :=
  (∀ c, s.head? = some c → C.isWs c = false) ∧ (∀ c, s.getLast? = some c → C.isWs c = false) ∧ adjOK C s = true

theorem dropWs_head (s : Str) (c : Char) (h : (C.dropWs s).head? = some c) : C.isWs c = false := by
  induction s with
  | nil => exact nomatch h
  | cons x xs ih =>
    rw [dropWs] at h
    split at h
    · exact ih h
    · next hx =>
      obtain rfl : x = c := Option.some.inj h
      exact Bool.eq_false_iff.mpr hx

theorem dropWs_suffix : ∀ s : Str, C.dropWs s <:+ s
  | [] => List.suffix_refl _
  | x :: xs => by
    rw [dropWs]
    split
    · exact (dropWs_suffix xs).trans (List.suffix_cons x xs)
    · exact List.suffix_refl _

theorem trim_last (s : Str) (c : Char) (h : (C.trim s).getLast? = some c) : C.isWs c = false := by
  rw [trim, List.getLast?_reverse] at h
  exact dropWs_head C _ c h

/-- the first character of `trim s` is the first of `dropWs s`: what `trim` drops at the end stands behind it -/
theorem trim_head (s : Str) (c : Char) (h : (C.trim s).head? = some c) : C.isWs c = false := by
  rw [trim, List.head?_reverse] at h
  obtain ⟨pre, hp⟩ := dropWs_suffix C (C.dropWs s).reverse
  apply dropWs_head C s c
  rw [← List.getLast?_reverse, ← hp, List.getLast?_append, h]
  rfl

/-- `p` is the last character kept, `prev` the last one read: the same, or whitespace dropped behind the
whitespace `p` -/
theorem squeeze_adj : ∀ (cs : Str) (prev p : Char), (C.isWs p = true → C.isWs prev = true) →
    adjOK C (p :: C.squeeze prev cs) = true
  | [], _, _, _ => rfl
  | c :: cs, prev, p, h => by
    rw [squeeze]
    split
    · next hb => exact squeeze_adj cs c p fun _ => (Bool.and_eq_true _ _ ▸ hb).2
    · next hb =>
      have hpc : (C.isWs p && C.isWs c) = false := by
        cases hp : C.isWs p with
        | false => rfl
        | true => simpa [h hp] using hb
      rw [adjOK, hpc, squeeze_adj cs c c id]
      rfl

/-- a character that is not whitespace is kept -/
theorem squeeze_concat {l : Char} (hl : C.isWs l = false) : ∀ (cs : Str) (prev : Char),
    C.squeeze prev (cs ++ [l]) = C.squeeze prev cs ++ [l]
  | [], prev => by simp [squeeze, hl]
  | c :: cs, prev => by
    simp only [List.cons_append, squeeze, squeeze_concat hl cs c]
    split <;> rfl

theorem post_head? (s : Str) : (C.post s).head? = (C.trim s).head? := by
  rw [post]
  split <;> simp [*]

theorem post_getLast? (s : Str) : (C.post s).getLast? = (C.trim s).getLast? := by
  have hl := trim_last C s
  rw [post]
  split
  · next h => rw [h]
  · next c cs h =>
    rw [h] at hl ⊢
    rcases List.eq_nil_or_concat cs with rfl | ⟨a, l, rfl⟩
    · rfl
    · -- `trim s` ends with `l`, so `l` is not whitespace
      rw [List.concat_eq_append, ← List.cons_append, List.getLast?_concat] at hl ⊢
      rw [squeeze_concat C (hl l rfl), ← List.cons_append, List.getLast?_concat]

theorem post_normal (s : Str) : Normal C (C.post s) := by
  refine ⟨fun c h => trim_head C s c (post_head? C s ▸ h), fun c h => trim_last C s c (post_getLast? C s ▸ h), ?_⟩
  rw [post]
  split
  · rfl
  · next c cs _ => exact squeeze_adj C cs c c id

/-- every rendering entry point ends with the post-processing, so every output is in normal form -/
theorem typst_normal :
    (∀ t, Normal C (C.typstTerm t)) ∧ (∀ s, Normal C (C.typstSentence s)) ∧ (∀ k, Normal C (C.typstTask k)) ∧
    (∀ x, Normal C (C.typstTruth x)) ∧ (∀ x, Normal C (C.typstBudget x)) ∧ (∀ x, Normal C (C.typstStamp x)) ∧
    (∀ x, Normal C (C.typstPunct x)) :=
  -- `typstTask` begins with a `let`: unfolded by hand, or the unifier also unfolds `post` and compares the matches
  ⟨fun _ => post_normal C _, fun _ => post_normal C _, fun _ => by unfold typstTask; exact post_normal C _,
   fun _ => post_normal C _, fun _ => post_normal C _, fun _ => post_normal C _, fun _ => post_normal C _⟩

def distinct {α : Type} [DecidableEq α] : List α → Bool
  | [] => true
  | x :: xs => !xs.contains x && distinct xs

/-- the constants that tell constructors apart are pairwise distinct in the crate's table
(a duplicated constant would make two different values collide) -/
theorem consts_distinct :
    let C := Gen.typstC
    distinct [C.cExtInt, C.cIntInt, C.cExtDiff, C.cIntDiff, C.cProduct, C.cExtImg, C.cIntImg, C.cConj, C.cDisj,
              C.cNeg, C.cSeqConj, C.cParConj] = true ∧
    distinct [C.copInh, C.copSim, C.copImpl, C.copEquiv, C.copImplPred, C.copImplConc, C.copImplRetro,
              C.copEquivPred, C.copEquivConc] = true ∧
    distinct [C.preWord, C.prePlaceholder, C.preIVar, C.preDVar, C.preQVar, C.preInterval, C.preOperator] = true ∧
    distinct [C.brCompound, C.brExtSet, C.brIntSet, C.brStatement] = true ∧
    distinct [C.pJudgement, C.pGoal, C.pQuestion, C.pQuest] = true ∧
    distinct [C.stampPast, C.stampPresent, C.stampFuture, C.stampFixed] = true := by decide +kernel

example : Normal Gen.typstC (Gen.typstC.post "  a   b \t c  ".toList) := post_normal _ _

end Narsese.Props.C16
