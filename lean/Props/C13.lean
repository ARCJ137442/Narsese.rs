/-
  C13 — truth, budget and evidence numbers accept exactly the closed unit interval.

  The constructor / accessor / validation LOGIC is proved for an arbitrary validity predicate
  `valid : α → Bool` (the `f64` instance is `Num.in01`, i.e. `(0.0..=1.0).contains`).
  The floating-point leaf (`valid x ↔ 0 ≤ x ≤ 1` on IEEE values, `powf` staying in range) is not
  modelled in Lean: it is evaluated on the real `f64` by the harness (`ctor` stream).
-/
import NarseseModel.Value
set_option autoImplicit false

namespace Narsese.Props.C13
open Narsese

variable {α : Type} (valid : α → Bool)

/-- the variant for a list of components (surplus items are never looked at) -/
def _root_.Narsese.GTruth.ofList : List α → GTruth α
  | [] => .empty
  | [f] => .single f
  | f :: c :: _ => .double f c

def _root_.Narsese.GBudget.ofList : List α → GBudget α
  | [] => .empty
  | [p] => .single p
  | [p, d] => .double p d
  | p :: d :: q :: _ => .triple p d q

/-! Each constructor returns the variant for the components if every CONSUMED component is valid, and
otherwise `Err` (fallible constructor) or panics (the `new_*` ones). -/

theorem truth_try_eq (xs : List α) :
    GTruth.tryFromFloats valid xs = if (xs.take 2).all valid then .ok (.ofList xs) else .err := by
  match xs with
  | [] => rfl
  | [f] => by_cases h : valid f <;> simp [GTruth.tryFromFloats, GTruth.newSingle, tryValidate, validate, Res.bind, GTruth.ofList, h]
  | f :: c :: r =>
    by_cases h : valid f <;> by_cases h' : valid c <;>
      simp [GTruth.tryFromFloats, GTruth.newDouble, tryValidate, validate, Res.bind, GTruth.ofList, h, h']

theorem budget_try_eq (xs : List α) :
    GBudget.tryFromFloats valid xs = if (xs.take 3).all valid then .ok (.ofList xs) else .err := by
  match xs with
  | [] => rfl
  | [p] => by_cases h : valid p <;> simp [GBudget.tryFromFloats, GBudget.newSingle, tryValidate, validate, Res.bind, GBudget.ofList, h]
  | [p, d] =>
    by_cases h : valid p <;> by_cases h' : valid d <;>
      simp [GBudget.tryFromFloats, GBudget.newDouble, tryValidate, validate, Res.bind, GBudget.ofList, h, h']
  | p :: d :: q :: r =>
    by_cases h : valid p <;> by_cases h' : valid d <;> by_cases h'' : valid q <;>
      simp [GBudget.tryFromFloats, GBudget.newTriple, tryValidate, validate, Res.bind, GBudget.ofList, h, h', h'']

theorem truth_components_ofList (xs : List α) :
    (GTruth.ofList xs).components = xs.take 2 ∧ (GTruth.ofList xs).arity = min 2 xs.length := by
  rcases xs with _ | ⟨f, _ | ⟨c, r⟩⟩ <;> simp [GTruth.ofList, GTruth.components, GTruth.arity] <;> omega

theorem budget_components_ofList (xs : List α) :
    (GBudget.ofList xs).components = xs.take 3 ∧ (GBudget.ofList xs).arity = min 3 xs.length := by
  rcases xs with _ | ⟨p, _ | ⟨d, _ | ⟨q, r⟩⟩⟩ <;> simp [GBudget.ofList, GBudget.components, GBudget.arity] <;> omega

/-- the fallible truth constructor succeeds exactly when every CONSUMED component (the first two) is valid, and then
the variant stores exactly the supplied numbers, surplus items ignored -/
theorem truth_ctor_spec (xs : List α) :
    (GTruth.tryFromFloats valid xs).isOk = (xs.take 2).all valid ∧
    ∀ t, GTruth.tryFromFloats valid xs = .ok t → t.components = xs.take 2 ∧ t.arity = min 2 xs.length := by
  rw [truth_try_eq]
  cases (xs.take 2).all valid
  · exact ⟨rfl, nofun⟩
  · exact ⟨rfl, fun t h => Res.ok.inj h ▸ truth_components_ofList xs⟩

theorem budget_ctor_spec (xs : List α) :
    (GBudget.tryFromFloats valid xs).isOk = (xs.take 3).all valid ∧
    ∀ b, GBudget.tryFromFloats valid xs = .ok b → b.components = xs.take 3 ∧ b.arity = min 3 xs.length := by
  rw [budget_try_eq]
  cases (xs.take 3).all valid
  · exact ⟨rfl, nofun⟩
  · exact ⟨rfl, fun b h => Res.ok.inj h ▸ budget_components_ofList xs⟩

/-- the fallible constructors never panic -/
theorem truth_try_total (xs : List α) : (GTruth.tryFromFloats valid xs).total = true := by
  rw [truth_try_eq]; split <;> rfl

theorem budget_try_total (xs : List α) : (GBudget.tryFromFloats valid xs).total = true := by
  rw [budget_try_eq]; split <;> rfl

/-- the panicking constructors panic exactly when the fallible one, on the same components, is `Err`;
otherwise both return the same value -/
theorem truth_single_panic_iff (f : α) :
    (GTruth.newSingle valid f = .panic ↔ GTruth.tryFromFloats valid [f] = .err) ∧
    (∀ t, GTruth.newSingle valid f = .ok t ↔ GTruth.tryFromFloats valid [f] = .ok t) := by
  by_cases h : valid f <;> simp [GTruth.tryFromFloats, GTruth.newSingle, tryValidate, validate, Res.bind, h]

theorem truth_double_panic_iff (f c : α) :
    (GTruth.newDouble valid f c = .panic ↔ GTruth.tryFromFloats valid [f, c] = .err) ∧
    (∀ t, GTruth.newDouble valid f c = .ok t ↔ GTruth.tryFromFloats valid [f, c] = .ok t) := by
  by_cases h : valid f <;> by_cases h' : valid c <;>
    simp [GTruth.tryFromFloats, GTruth.newDouble, tryValidate, validate, Res.bind, h, h']

theorem budget_single_panic_iff (p : α) :
    (GBudget.newSingle valid p = .panic ↔ GBudget.tryFromFloats valid [p] = .err) ∧
    (∀ t, GBudget.newSingle valid p = .ok t ↔ GBudget.tryFromFloats valid [p] = .ok t) := by
  by_cases h : valid p <;> simp [GBudget.tryFromFloats, GBudget.newSingle, tryValidate, validate, Res.bind, h]

theorem budget_double_panic_iff (p d : α) :
    (GBudget.newDouble valid p d = .panic ↔ GBudget.tryFromFloats valid [p, d] = .err) ∧
    (∀ t, GBudget.newDouble valid p d = .ok t ↔ GBudget.tryFromFloats valid [p, d] = .ok t) := by
  by_cases h : valid p <;> by_cases h' : valid d <;>
    simp [GBudget.tryFromFloats, GBudget.newDouble, tryValidate, validate, Res.bind, h, h']

theorem budget_triple_panic_iff (p d q : α) :
    (GBudget.newTriple valid p d q = .panic ↔ GBudget.tryFromFloats valid [p, d, q] = .err) ∧
    (∀ t, GBudget.newTriple valid p d q = .ok t ↔ GBudget.tryFromFloats valid [p, d, q] = .ok t) := by
  by_cases h : valid p <;> by_cases h' : valid d <;> by_cases h'' : valid q <;>
    simp [GBudget.tryFromFloats, GBudget.newTriple, tryValidate, validate, Res.bind, h, h', h'']

/-- accessors return the stored number unchanged and panic exactly for components the variant lacks -/
theorem truth_accessors (t : GTruth α) :
    (t.f = .panic ↔ t.arity < 1) ∧ (t.c = .panic ↔ t.arity < 2) ∧
    (∀ x, t.f = .ok x ↔ t.components[0]? = some x) ∧ (∀ x, t.c = .ok x ↔ t.components[1]? = some x) := by
  cases t <;> simp [GTruth.f, GTruth.c, GTruth.arity, GTruth.components]

theorem budget_accessors (b : GBudget α) :
    (b.p = .panic ↔ b.arity < 1) ∧ (b.d = .panic ↔ b.arity < 2) ∧ (b.q = .panic ↔ b.arity < 3) ∧
    (∀ x, b.p = .ok x ↔ b.components[0]? = some x) ∧ (∀ x, b.d = .ok x ↔ b.components[1]? = some x) ∧
    (∀ x, b.q = .ok x ↔ b.components[2]? = some x) := by
  cases b <;> simp [GBudget.p, GBudget.d, GBudget.q, GBudget.arity, GBudget.components]

/-- `is_valid`, `try_validate` and `validate` agree with each other -/
theorem validate_agree (x : α) :
    (validate valid x = .panic ↔ tryValidate valid x = .err) ∧
    (tryValidate valid x = .err ↔ valid x = false) ∧
    (tryValidate valid x = .ok x ↔ valid x = true) ∧
    (validate valid x = .ok x ↔ valid x = true) := by
  by_cases h : valid x <;> simp [validate, tryValidate, h]

/-- the `f64` instance: the unit-interval test on IEEE-754 bit patterns accepts exactly
`+0.0 ..= 1.0` (patterns up to that of `1.0`) and `-0.0`; every NaN, infinity, negative and `> 1`
pattern is rejected. -/
theorem in01_bits_spec (b : Nat) (hb : b < 2 ^ 64) :
    in01Bits b = true ↔ (b ≤ 0x3FF0000000000000 ∨ b = 0x8000000000000000) := by
  unfold in01Bits bitsOne bitsNegZero
  rw [Bool.or_eq_true, decide_eq_true_eq, beq_iff_eq]

theorem in01_rejects_special :
    in01Bits bitsInf = false ∧ in01Bits bitsNaN = false ∧ in01Bits (bitsNegZero + bitsInf) = false ∧
    in01Bits (bitsOne + 1) = false ∧ in01Bits (bitsNegZero + 1) = false ∧
    in01Bits 0 = true ∧ in01Bits bitsNegZero = true ∧ in01Bits bitsOne = true ∧ in01Bits 1 = true := by
  decide

/-- non-vacuity: concrete tuples on both sides of every statement -/
example : GTruth.tryFromFloats (fun n : Nat => n ≤ 1) [1, 0, 7] = .ok (.double 1 0) := by decide
example : GTruth.tryFromFloats (fun n : Nat => n ≤ 1) [1, 7] = .err := by decide
example : GBudget.newTriple (fun n : Nat => n ≤ 1) 1 0 7 = .panic := by decide

end Narsese.Props.C13
