/-
  C06 — term equality is semantic, order-insensitive where NAL says so, and stable.

  `sem` is the reference ("denote the same Narsese term"): same constructor, equal names / numbers,
  pointwise equal components for ordered compounds, images and asymmetric statements, mutual inclusion
  for the seven hash-set backed constructors, either operand order for the three symmetric statements.
  `eqImpl` is the model of the hand-written `PartialEq`, with `HashSet == HashSet` looking each element up
  BY ITS HASH (`feed`) and then by `==`. Values "as hash sets build them" (`built`) have set-like
  component lists that are duplicate-free modulo `sem`.
-/
import Proofs.SetBuild
set_option autoImplicit false

namespace Narsese.Props.C06
open Narsese

/-- **`==` is semantic equality** on every pair of values the API can build, at every nesting depth,
whatever hasher the sets use for their elements -/
theorem eq_is_semantic (h0 : List Tok → Nat) (a b : Term) (ha : built a = true) (hb : built b = true) :
    eqImpl h0 a b = sem a b := eqImpl_eq_sem h0 a b ha hb

/- the reference relation is an equivalence relation (on ALL terms): the next three theorems -/
theorem sem_reflexive (t : Term) : sem t t = true := sem_refl t
theorem sem_symmetric (a b : Term) : sem a b = sem b a := sem_symm a b
theorem sem_transitive (a b c : Term) (h1 : sem a b = true) (h2 : sem b c = true) : sem a c = true :=
  sem_trans a b c h1 h2

/-- hence `==` itself is reflexive, symmetric and transitive on built values -/
theorem eq_equivalence (h0 : List Tok → Nat) (a b c : Term)
    (ha : built a = true) (hb : built b = true) (hc : built c = true) :
    eqImpl h0 a a = true ∧ eqImpl h0 a b = eqImpl h0 b a ∧
    (eqImpl h0 a b = true → eqImpl h0 b c = true → eqImpl h0 a c = true) := by
  rw [eq_is_semantic h0 a a ha ha, eq_is_semantic h0 a b ha hb, eq_is_semantic h0 b a hb ha,
    eq_is_semantic h0 b c hb hc, eq_is_semantic h0 a c ha hc]
  exact ⟨sem_refl a, sem_symm a b, sem_trans a b c⟩

/-- `==` does not depend on the element hasher `h0` inside `feed` (the `RandomState` of a `HashSet` does not occur
in `eqImpl` at all: its lookup is equality of feeds by definition) -/
theorem eq_hasher_independent (h0 h0' : List Tok → Nat) (a b : Term) (ha : built a = true) (hb : built b = true) :
    eqImpl h0 a b = eqImpl h0' a b := by
  rw [eq_is_semantic h0 a b ha hb, eq_is_semantic h0' a b ha hb]

/-- insertion order and duplicates are irrelevant: component lists denoting the same set build equal terms -/
theorem set_order_dup_irrelevant (k : SetK) (xs ys : List Term)
    (h1 : ∀ x ∈ xs, ∃ y ∈ ys, sem x y = true) (h2 : ∀ y ∈ ys, ∃ x ∈ xs, sem x y = true) :
    sem (.setlike k (Terms.ofList (mkSetSem xs))) (.setlike k (Terms.ofList (mkSetSem ys))) = true :=
  mkSet_order_dup_irrelevant k xs ys h1 h2

/-- in particular: any permutation, with any duplications, of the same components -/
theorem set_perm_dup (k : SetK) (xs ys : List Term) (h : ∀ t, t ∈ xs ↔ t ∈ ys) :
    sem (.setlike k (Terms.ofList (mkSetSem xs))) (.setlike k (Terms.ofList (mkSetSem ys))) = true :=
  mkSet_order_dup_irrelevant k xs ys (fun x hx => ⟨x, (h x).mp hx, sem_refl x⟩) (fun y hy => ⟨y, (h y).mpr hy, sem_refl y⟩)

/-- what the constructors build IS built, and the code's hash-based insertion equals de-duplication by `sem` -/
theorem constructors_build_built (k : SetK) (xs : List Term) (hx : ∀ x ∈ xs, built x = true) (h0 : List Tok → Nat) :
    built (.setlike k (Terms.ofList (mkSetSem xs))) = true ∧ mkSet h0 xs = mkSetSem xs :=
  ⟨mkSet_built k xs hx, mkSet_eq_mkSetSem h0 xs hx⟩

/-- symmetric statements: operands in either order -/
theorem symmetric_operands (k : BinK) (hk : k.symmetric = true) (a b : Term) :
    sem (.bin k a b) (.bin k b a) = true :=
  sem_bin_iff.mpr ⟨b, a, rfl, .inr ⟨hk, sem_refl a, sem_refl b⟩⟩

/- witnesses: asymmetric statements (the first two) are NOT symmetric, and the image index matters (the third) -/
example : sem (.bin .inh (.atom .word ['a']) (.atom .word ['b'])) (.bin .inh (.atom .word ['b']) (.atom .word ['a'])) = false := by decide
example : sem (.bin .equivPred (.atom .word ['a']) (.atom .word ['b'])) (.bin .equivPred (.atom .word ['b']) (.atom .word ['a'])) = false := by decide
example : sem (.image .ext 0 (.cons (.atom .word ['a']) .nil)) (.image .ext 1 (.cons (.atom .word ['a']) .nil)) = false := by decide
/-- non-vacuity: a nested built value with permuted sets on both sides -/
example :
    let a := Term.atom .word ['a']; let b := Term.atom .word ['b']
    let s1 := Term.setlike .extSet (.cons (.setlike .intSet (.cons a (.cons b .nil))) (.cons (.bin .sim a b) .nil))
    let s2 := Term.setlike .extSet (.cons (.bin .sim b a) (.cons (.setlike .intSet (.cons b (.cons a .nil))) .nil))
    built s1 = true ∧ built s2 = true ∧ sem s1 s2 = true := by decide

end Narsese.Props.C06
