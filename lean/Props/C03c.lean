/-
  C03 (master theorem) — both pipelines agree on EVERY spelling: any spacing, derived copulas included.
  The development lives in `Proofs/Spelling/*` (enum parser) and `Proofs/Pipelines/*` (lexical parser and fold); the
  statements and the three shipped instances are in `Props/C09b.lean`; restated here under C03's name.
-/
import Props.C09b
set_option autoImplicit false

namespace Narsese.Props.C03
open Narsese EFormat

/-- for every well-formed surface value `sv` (token structure + spaces at every
boundary + copula written) of a pair of formats satisfying the decidable side conditions:
`enum_parse (svalTxt sv) = fold (lexical_parse (svalTxt sv)) = Ok (denVal sv)` -/
theorem pipelines_agree_every_spelling (F : EFormat) (L : LFormat) (hV : SurfaceItemsOK F) (hO : FoldOK F)
    (hX : LexSide F L) (hLI : LItemsOK L) (sv : SValue) (v : Narsese) (h : spellOK F L sv v = true) :
    F.eparse (svalTxt F sv) = .ok v ∧ (L.lparse (svalTxt F sv)).bind F.foldNarsese = .ok v :=
  C09.pipelines_agree F L hV hO hX hLI sv v h

theorem pipelines_agree_every_spelling_shipped (sv : SValue) (v : Narsese) :
    (spellOK Gen.asciiE Gen.asciiL sv v = true →
      Gen.asciiE.eparse (svalTxt Gen.asciiE sv) = .ok v ∧
      (Gen.asciiL.lparse (svalTxt Gen.asciiE sv)).bind Gen.asciiE.foldNarsese = .ok v) ∧
    (spellOK Gen.latexE Gen.latexL sv v = true →
      Gen.latexE.eparse (svalTxt Gen.latexE sv) = .ok v ∧
      (Gen.latexL.lparse (svalTxt Gen.latexE sv)).bind Gen.latexE.foldNarsese = .ok v) ∧
    (spellOK Gen.hanE Gen.hanL sv v = true →
      Gen.hanE.eparse (svalTxt Gen.hanE sv) = .ok v ∧
      (Gen.hanL.lparse (svalTxt Gen.hanE sv)).bind Gen.hanE.foldNarsese = .ok v) :=
  C09.pipelines_agree_shipped sv v

end Narsese.Props.C03
