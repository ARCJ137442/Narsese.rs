/-
  C09 — whitespace between tokens never changes what is parsed.

  Basic facts (the main theorems — any number of spaces at any token boundary, both pipelines, and the macro
  path — are in `C09b.lean`, corollaries of the master theorem, `Proofs/Spelling/*` and `Proofs/Pipelines/*`):
    * the lexical parser ignores EVERY Unicode whitespace character, anywhere (all spacings at once);
    * the inline-macro path strips exactly the characters the lexical parser strips;
    * after the enum parser's `head_skip_spaces` no further space stands at the head (skipping is idempotent).
-/
import NarseseModel.Lex
import NarseseModel.EParser
import Proofs.Strings
import NarseseModel.Gen.Formats
set_option autoImplicit false

namespace Narsese.Props.C09
open Narsese LFormat EFormat

theorem idealize_insert_ws (L : LFormat) (hr : L.removeSpaces = true) (a b ws : Str)
    (hws : ∀ c ∈ ws, L.isWs c = true) : L.idealize (a ++ ws ++ b) = L.idealize (a ++ b) := by
  have : ws.filter (fun c => !L.isWs c) = [] := by
    rw [List.filter_eq_nil_iff]
    intro c hc
    simp [hws c hc]
  simp [idealize, hr, List.filter_append, this]

/-- **the lexical parser ignores every whitespace character**: inserting whitespace anywhere (any
number of characters, at any positions — this covers every spacing of every token sequence) leaves
the parse result unchanged -/
theorem lex_ignores_whitespace (L : LFormat) (hr : L.removeSpaces = true) (a b ws : Str)
    (hws : ∀ c ∈ ws, L.isWs c = true) : L.lparse (a ++ ws ++ b) = L.lparse (a ++ b) := by
  simp only [lparse, idealize_insert_ws L hr a b ws hws]

theorem lexterm_ignores_whitespace (L : LFormat) (hr : L.removeSpaces = true) (a b ws : Str)
    (hws : ∀ c ∈ ws, L.isWs c = true) : L.lparseTerm (a ++ ws ++ b) = L.lparseTerm (a ++ b) := by
  simp only [lparseTerm, idealize_insert_ws L hr a b ws hws]

/-- all three shipped lexical formats remove whitespace, and "whitespace" is `char::is_whitespace`
(the very table the macros filter with: tab, newline, ideographic space, NBSP, ...): `Gen.typstC.isWsTbl` is
`char::is_whitespace` evaluated on all scalar values by the harness (`dump-tables`) -/
theorem shipped_remove_unicode_whitespace : ∀ L ∈ [Gen.asciiL, Gen.latexL, Gen.hanL],
    L.removeSpaces = true ∧ L.isWsTbl = Gen.typstC.isWsTbl := by decide +kernel

example : Gen.asciiL.isWs '\t' = true ∧ Gen.asciiL.isWs '\n' = true ∧ Gen.asciiL.isWs (Char.ofNat 0x3000) = true ∧
    Gen.asciiL.isWs ' ' = true ∧ Gen.asciiL.isWs 'a' = false := by decide +kernel

/-- hence whitespace-stripped text is a fixed point: the macro path (`filter(!is_whitespace)`) feeds the
parser exactly the idealised environment -/
theorem idealize_idem (L : LFormat) (s : Str) : L.idealize (L.idealize s) = L.idealize s := by
  unfold idealize
  split <;> simp [List.filter_filter]

/-! ### enum parser: `head_skip_spaces` -/

theorem skipSpAux_none (sp s : Str) (n : Nat) (h : strip sp s = none) : skipSpAux sp n s = s := by
  cases n <;> simp [skipSpAux, h]

/-- skipping is idempotent (a second skip finds nothing to skip), given enough fuel for the first one -/
theorem skipSpAux_stops (sp : Str) : ∀ (n : Nat) (s : Str), s.length ≤ n → sp ≠ [] →
    strip sp (skipSpAux sp n s) = none ∨ skipSpAux sp n s = []
  | 0, s, h, _ => by
    have : s = [] := List.eq_nil_of_length_eq_zero (by omega)
    simp [skipSpAux, this]
  | n + 1, s, h, hsp => by
    simp only [skipSpAux]
    cases hs : strip sp s with
    | none => simp [hs]
    | some r =>
      simp only
      apply skipSpAux_stops sp n r _ hsp
      have := strip_length sp s r hs
      have := List.length_pos_iff.mpr hsp
      omega

end Narsese.Props.C09
