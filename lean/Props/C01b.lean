/-
  C01 (main theorems, term level) — enum Narsese survives format-then-parse.

  PROVED: for every format record satisfying the decidable side condition `FormatOK` — decided below for
  the three shipped tables as regenerated from the crate — and every well-formed term `t` (all 30
  constructors, any nesting depth, any arity, images with every placeholder index), the term parser
  applied to the formatter's own text returns exactly `t` and stops exactly behind it, with the fuel the
  entry points supply. Well-formed (`wfT`): atom names satisfy `nameOK` (non-empty, name characters only,
  contain no copula and do not end in the beginning of one, neither begin with an atom prefix nor are the beginning of
  one), intervals fit the
  machine word, compounds are non-empty, set-like components are pairwise semantically different (what a
  hash set holds), image indexes are within range and image components are placeholder-free.
  The sentence / task level (`C01c.lean`) builds on this.
-/
import Proofs.Spelling.Canon
import NarseseModel.Gen.Formats
set_option autoImplicit false

namespace Narsese.Props.C01
open Narsese EFormat

/-- the side condition holds for the three shipped formats (re-decided on the regenerated tables):
openers pairwise distinguishable and never mistaken for atom prefixes or name characters; separators,
closers and the parse-space never start a term; copulas pairwise prefix-incompatible and never start with a
space or a digit; ordered first-match connecter table picks the printed connecter; digits are name characters -/
theorem formatOK_ascii : FormatOK Gen.asciiE := ⟨by decide +kernel⟩
theorem formatOK_latex : FormatOK Gen.latexE := ⟨by decide +kernel⟩
theorem formatOK_han : FormatOK Gen.hanE := ⟨by decide +kernel⟩

/-- **term-level round trip**, stated on the cursor the whole-value parser uses (`rest` = what follows the
term in the input; `Stop` = it does not continue the last atom's name) -/
theorem enum_term_roundtrip (F : EFormat) (hF : FormatOK F) (t : Term) (ht : wfT F t = true)
    (rest : Str) (hst : Stop F rest) (len fuel : Nat) (hfuel : 3 * (F.fmtTerm t ++ rest).length + 2 ≤ fuel) :
    F.parseTerm fuel (mk len (F.fmtTerm t ++ rest)) = .ok (t, mk len rest) :=
  parseTerm_fmtTerm hF len t ht rest hst fuel hfuel

/-- in particular a formatted term followed by nothing, with the fuel `consume_one` supplies -/
theorem enum_term_roundtrip_eof (F : EFormat) (hF : FormatOK F) (t : Term) (ht : wfT F t = true) :
    F.parseTerm (termFuel (Cur.ofEnv (F.fmtTerm t))) (Cur.ofEnv (F.fmtTerm t)) =
      .ok (t, mk (F.fmtTerm t).length []) := by
  have := parseTerm_fmtTerm hF (F.fmtTerm t).length t ht [] (stop_nil F) (termFuel (Cur.ofEnv (F.fmtTerm t)))
    (by simp [termFuel, Cur.ofEnv]; omega)
  simpa [mk, Cur.ofEnv] using this

/-- non-vacuity: a nested value using every constructor class satisfies `wfT` in all three formats -/
def sample : Term :=
  let w (s : String) : Term := .atom .word s.toList
  .bin .impl
    (.seqlike .seqConj (.cons
      (.bin .inh (.setlike .extSet (.cons (w "ball") .nil)) (.setlike .intSet (.cons (w "left") .nil)))
      (.cons (.bin .inh (.seqlike .product (.cons (.setlike .extSet (.cons (w "SELF") .nil))
          (.cons (.atom .ivar "any".toList) (.cons (.atom .dvar "some".toList) .nil)))) (.atom .op "go-to".toList))
      (.cons (.image .ext 1 (.cons (w "a") (.cons (.interval 7) .nil)))
      (.cons (.neg (.setlike .conj (.cons (w "x") (.cons (.bin .sim (w "p") (w "q")) .nil)))) .nil)))))
    (.bin .equivPred (.bin .extDiff (w "a") (w "b")) (.atom .qvar "what".toList))

theorem sample_wf : wfT Gen.asciiE sample = true ∧ wfT Gen.latexE sample = true ∧ wfT Gen.hanE sample = true := by
  decide +kernel

example : wfT Gen.asciiE sample = true ∧ wfT Gen.latexE sample = true ∧ wfT Gen.hanE sample = true := sample_wf

end Narsese.Props.C01
