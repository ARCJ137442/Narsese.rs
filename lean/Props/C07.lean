/-
  C07 — equal terms hash equally, so terms work as hash-map and hash-set keys.

  `feed h0 t` is the exact sequence of `Hasher::write_*` calls `t.hash(state)` performs (after the D1
  repair); unordered parts contribute their length and the wrapping sum of the elements' own hashes
  under the fixed-key hasher `h0`, which is an ARBITRARY function in the theorems.
-/
import Proofs.SetBuild
set_option autoImplicit false

namespace Narsese.Props.C07
open Narsese

/-- **equal terms feed the hasher identically** -/
theorem feed_respects_sem (h0 : List Tok → Nat) (a b : Term) (ha : built a = true) (hb : built b = true)
    (h : sem a b = true) : feed h0 a = feed h0 b :=
  Narsese.feed_respects_sem h0 a b ha hb h

/-- hence terms that compare equal (`eqImpl`) have the same hash under ANY hasher `hash : List Tok → H` -/
theorem equal_hash_any_hasher {H : Type} (hash : List Tok → H) (h0 : List Tok → Nat) (a b : Term)
    (ha : built a = true) (hb : built b = true) (h : eqImpl h0 a b = true) :
    hash (feed h0 a) = hash (feed h0 b) := by
  rw [eqImpl_eq_sem h0 a b ha hb] at h
  rw [Narsese.feed_respects_sem h0 a b ha hb h]

/-- **a term inserted into the empty hash set is found again by any equal term** -/
theorem set_contains_equal (h0 : List Tok → Nat) (a b : Term) (ha : built a = true) (hb : built b = true)
    (h : sem a b = true) : lookupSet h0 (insertSet h0 [] a) b = true := by
  rw [lookupSet_eq h0 _ b (by simp [insertSet, lookupSet]; exact ha) hb]
  simp [insertSet, lookupSet, h]

/-- lookups succeed exactly for semantically equal keys (no false positives either) -/
theorem lookup_iff (h0 : List Tok → Nat) (s : List Term) (x : Term) (hs : ∀ y ∈ s, built y = true)
    (hx : built x = true) : lookupSet h0 s x = true ↔ ∃ y ∈ s, sem y x = true := by
  rw [lookupSet_eq h0 s x hs hx]; simp

/-- independence of insertion order and duplicates, stated on the feed -/
theorem feed_order_independent (h0 : List Tok → Nat) (k : SetK) (xs ys : List Term)
    (hx : ∀ x ∈ xs, built x = true) (hy : ∀ y ∈ ys, built y = true)
    (h1 : ∀ x ∈ xs, ∃ y ∈ ys, sem x y = true) (h2 : ∀ y ∈ ys, ∃ x ∈ xs, sem x y = true) :
    feed h0 (.setlike k (Terms.ofList (mkSetSem xs))) = feed h0 (.setlike k (Terms.ofList (mkSetSem ys))) :=
  Narsese.feed_respects_sem h0 _ _ (mkSet_built k xs hx) (mkSet_built k ys hy) (mkSet_order_dup_irrelevant k xs ys h1 h2)

/-- independence of the operand order of symmetric statements (any operands, built or not) -/
theorem feed_symmetric_operands (h0 : List Tok → Nat) (k : BinK) (hk : k.symmetric = true) (a b : Term) :
    feed h0 (.bin k a b) = feed h0 (.bin k b a) := by
  simp only [feed, hk, if_true, wrapAdd_left_comm]

/-- non-vacuity -/
example : feed (fun l => l.length) (.bin .sim (.atom .word ['a']) (.interval 3)) =
          feed (fun l => l.length) (.bin .sim (.interval 3) (.atom .word ['a'])) := by decide

end Narsese.Props.C07
