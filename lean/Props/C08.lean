/-
  C08 — parsing depends only on format and input, not on earlier parses.

  The enum parser is modelled as a state machine (`PState = cursor + five optional slots`) that
  `parse_multi` re-targets at each input with `reset_to`. The theorem is a refinement statement:
  the batch entry point equals mapping the single-input entry point, whatever came before.
-/
import NarseseModel.EParser
import NarseseModel.Lex
set_option autoImplicit false

namespace Narsese.Props.C08
open Narsese EFormat

/-- `reset_to` forgets everything about the previous state (cursor AND the five slots) -/
theorem resetTo_forgets (s s' : PState) (input : Str) : resetTo s input = resetTo s' input := rfl

/-- whatever state earlier inputs left behind, the next input is parsed as if alone -/
theorem parseMultiAux_eq (F : EFormat) (s : PState) (inputs : List Str) :
    F.parseMultiAux s inputs = inputs.map F.eparse := by
  induction inputs generalizing s with
  | nil => rfl
  | cons i is ih =>
    simp only [parseMultiAux, List.map_cons]
    rw [ih]
    rfl

/-- `parse_multi(s₁..sₙ)[i] = parse(sᵢ)` for every sequence of inputs — valid, partial or invalid -/
theorem parseMulti_eq (F : EFormat) (inputs : List Str) :
    F.parseMulti inputs = inputs.map F.eparse :=
  parseMultiAux_eq F _ inputs

theorem parseMulti_get (F : EFormat) (inputs : List Str) (i : Nat) :
    (F.parseMulti inputs)[i]? = (inputs[i]?).map F.eparse := by
  rw [parseMulti_eq]; simp

/-- the result for position `i` does not depend on the other inputs at all -/
theorem parseMulti_prefix_irrelevant (F : EFormat) (before before' : List Str) (x : Str) (after : List Str) :
    (F.parseMulti (before ++ x :: after))[before.length]? = (F.parseMulti (before' ++ x :: after))[before'.length]? := by
  simp [parseMulti_eq]

/-- why `reset_to` must clear the slots: there is a filled slot (a budget) that `transform_mid_result` on a term
alone leaves filled. (The statement is about `transformMid` on such a `Mid`; no parse and no next input occur in it.) -/
theorem residue_exists :
    ∃ (m : Mid), m.budget.isSome ∧ ∀ c t, (transformMid c { m with term := some t }).toRes.isOk = true ∧
      ∀ v m', transformMid c { m with term := some t } = .ok (v, m') → m'.budget.isSome := by
  refine ⟨{ budget := some .empty }, rfl, ?_⟩
  intro c t
  constructor
  · simp [transformMid, PRes.toRes, Res.isOk]
  · intro v m' h
    simp [transformMid] at h
    rw [← h.2]; rfl

/-- the lexical parser has no state at all: it is a function of (format, input) -/
theorem lparse_deterministic (L : LFormat) (input : Str) (r₁ r₂ : Res LNarsese)
    (h₁ : L.lparse input = r₁) (h₂ : L.lparse input = r₂) : r₁ = r₂ := by rw [← h₁, ← h₂]

end Narsese.Props.C08
