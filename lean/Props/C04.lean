/-
  C04 — the enum parser is total: every input yields Ok or Err.

  Modelled: every Rust slice / index / unwrap of `impl_enum/parser.rs` as an operation that can return
  `panic`, every loop and recursion with fuel. PROVED AT FULL STRENGTH (file `C04b.lean`, which imports
  the totality development): for every input string — unbounded length and nesting — and every format
  whose loop keywords are non-empty (all three shipped ones), every entry point returns `Ok` or `Err`:
  no panic, and the fuel the entry points supply (linear in the input) is never exhausted, i.e. the
  Rust loops terminate because every successful consume step advances the cursor.
  This file holds what needs no hypothesis on the format: the stamp and punctuation doors and
  `transform_mid_result`, and that error construction never panics. The `Sat` statements on the
  punctuation, stamp and integer readers (`consumePunct_safe`, `consumeStamp_safe`, `parseIsizeAt_sat`) are what the
  totality and well-formedness developments (`Proofs/EParseTotal.lean`, `Proofs/EParseWF.lean`) use for these readers.
-/
import Proofs.EItems
set_option autoImplicit false

namespace Narsese.Props.C04
open Narsese EFormat

/-- **error construction never panics** (after the D3 repair): for every input length and every head
position — including a head that ran past the end — the context window `env[left..right]` is a valid slice -/
theorem windowOk_always (len head : Nat) : windowOk len head = true := windowOk_eq_true len head

theorem raise_never_panics {α : Type} (c : Cur) : (raise c : PRes α) = .err c := raise_eq_err c

/-- the side doors build their error eagerly, after a successful consume (`ok_or(parser.parse_error(..))`): that
construction slices the same window and does not panic either -/
theorem eagerErr_ok {α : Type} (c : Cur) (a : α) : eagerErr c a = .ok a := eagerErr_eq_ok c a

theorem consumePunct_safe {live : Prop} (F : EFormat) (c : Cur) : (F.consumePunct c).Sat (fun _ => True) live := by
  unfold consumePunct
  exact .ite (fun _ => .ok trivial) fun _ => .ite (fun _ => .ok trivial) fun _ => .ite (fun _ => .ok trivial) fun _ =>
    .ite (fun _ => .ok trivial) fun _ => .raise c

/-- the stand-alone punctuation parser is total -/
theorem punctDoor_total (F : EFormat) (input : Str) : (F.parsePunctDoor input).total = true := by
  unfold parsePunctDoor
  exact (consumePunct_safe F _).elim (fun p _ => eagerErr_total p.2 p.1) (fun _ => rfl) (absurd trivial)

/-- the integer reader of fixed stamps never panics, and stops where the run of digits and signs ends -/
theorem parseIsizeAt_sat {live : Prop} (c : Cur) :
    (parseIsizeAt c).Sat (fun p => p.2 = { c with rest := (spanSigned c.rest).2 }) live := by
  unfold parseIsizeAt
  dsimp only
  refine .ite (fun _ => .raise _) fun _ => ?_
  split
  · exact .ok rfl
  · exact .raise _

theorem consumeStamp_safe {live : Prop} (F : EFormat) (c : Cur) : (F.consumeStamp c).Sat (fun _ => True) live := by
  unfold consumeStamp
  dsimp only
  refine .ite (fun _ => ?_) fun _ => .ite (fun _ => .ok trivial) fun _ => .ite (fun _ => .ok trivial) fun _ =>
    .ite (fun _ => .ok trivial) fun _ => .raise _
  exact (parseIsizeAt_sat _).elim (fun _ _ => .ok trivial) .err .fuel

/-- the stand-alone stamp parser is total -/
theorem stampDoor_total (F : EFormat) (input : Str) : (F.parseStampDoor input).total = true := by
  unfold parseStampDoor
  split
  · rfl
  · exact (consumeStamp_safe F _).elim (fun p _ => eagerErr_total p.2 p.1) (fun _ => rfl) (absurd trivial)

/-- `transform_mid_result` never unwraps an empty slot: it is `Ok` or `Err` for every slot combination -/
theorem transformMid_total (c : Cur) (m : Mid) : (transformMid c m).toRes.total = true := by
  rw [transformMid_eq]
  split <;> rfl

example : windowOk 3 99 = true ∧ windowOk 0 0 = true ∧ windowOk 10 5 = true := by decide

end Narsese.Props.C04
