/-
  C12 — values produced by parsing or folding are always well-formed.

  Proved here at full strength for FOLDING (any lexical value, any format): every truth / budget
  component of an `Ok` result lies in [0,1] and every image index is at most its component count, at
  every nesting depth; and the two arity facts the printers rely on (end of the file).
  The enum PARSER part (`eparse_wf`: for every input string and every format record) is proved in
  `C12b.lean`. Together: C12 is proved at full strength on the model.
-/
import Proofs.EItems
import Proofs.FoldLemmas
import Proofs.SetBuild
import NarseseModel.Api
set_option autoImplicit false

namespace Narsese.Props.C12
open Narsese EFormat

def Truth.inRange (t : Truth) : Bool := t.components.all Num.in01
def Budget.inRange (b : Budget) : Bool := b.components.all Num.in01

theorem truth_tryFromFloats_range (xs : List Num) (t : Truth) (h : Truth.tryFromFloats xs = .ok t) :
    Truth.inRange t = true := by
  rw [Truth.tryFromFloats_eq] at h
  split at h
  · cases h
    unfold Truth.inRange
    rwa [Truth.components_ofList]
  · cases h

theorem budget_tryFromFloats_range (xs : List Num) (b : Budget) (h : Budget.tryFromFloats xs = .ok b) :
    Budget.inRange b = true := by
  rw [Budget.tryFromFloats_eq] at h
  split at h
  · cases h
    unfold Budget.inRange
    rwa [Budget.components_ofList]
  · cases h

mutual
  /-- every image's placeholder index is at most the number of its components -/
  def imgOK : Term → Bool
    | .image _ i ts => decide (i ≤ ts.length) && imgOKs ts
    | .setlike _ ts | .seqlike _ ts => imgOKs ts
    | .neg t => imgOK t
    | .bin _ a b => imgOK a && imgOK b
    | _ => true
  def imgOKs : Terms → Bool
    | .nil => true
    | .cons t ts => imgOK t && imgOKs ts
end

theorem imgOKs_ofList (l : List Term) : imgOKs (Terms.ofList l) = l.all imgOK := by
  induction l with
  | nil => rfl
  | cons t ts ih => simp [Terms.ofList, imgOKs, ih]

theorem toTermsWithImage_all (p : Term → Bool) : ∀ (ts : List Term) (n : Nat) (idx : Option Nat) (acc : List Term),
    ts.all p = true → acc.all p = true → (toTermsWithImage ts n idx acc).2.all p = true
  | [], _, _, acc, _, h2 => by simpa [toTermsWithImage] using h2
  | t :: ts, n, idx, acc, h1, h2 => by
    simp only [List.all_cons, Bool.and_eq_true] at h1
    simp only [toTermsWithImage]
    split
    · exact toTermsWithImage_all p ts _ _ acc h1.2 h2
    · exact toTermsWithImage_all p ts _ _ (acc ++ [t]) h1.2 (by simp [h2, h1.1])

theorem buildCompound_imgOK (ck : ConnK) (ts : List Term) (v : Term) (hts : ts.all imgOK = true)
    (h : buildCompound ck ts = .ok v) : imgOK v = true := by
  have h := buildCompound_ok h
  cases ck with
  | set k => rw [h]; simpa [imgOK, imgOKs_ofList] using mkSetSem_all imgOK ts hts
  | seq k => rw [h]; simpa [imgOK, imgOKs_ofList] using hts
  | diff k =>
    obtain ⟨a, b, r, rfl, rfl⟩ := h
    simp only [List.all_cons, Bool.and_eq_true] at hts
    simp only [imgOK, hts.1, hts.2.1, Bool.and_self]
  | img k =>
    obtain ⟨i, ts', heq, hi, rfl⟩ := h
    have hall := toTermsWithImage_all imgOK ts 0 none [] hts rfl
    rw [heq] at hall
    simp only [imgOK, imgOKs_ofList, Terms.length_ofList, Bool.and_eq_true, decide_eq_true_eq]
    exact ⟨Nat.le_of_not_gt hi, hall⟩
  | neg =>
    obtain ⟨a, r, rfl, rfl⟩ := h
    simp only [List.all_cons, Bool.and_eq_true] at hts
    exact hts.1
  | operatorUnsupported => exact h.elim

theorem copBuild_imgOK (ck : CopK) (s p : Term) (hs : imgOK s = true) (hp : imgOK p = true) :
    imgOK (ck.build s p) = true := by
  cases ck <;> simp [CopK.build, imgOK, imgOKs, hs, hp]

mutual
  /-- the image-index part of `fold_wf`: whatever the lexical term, an `Ok` fold has every image index in range -/
  theorem fold_term_imgOK (F : EFormat) : ∀ (x : LTerm) (v : Term), F.foldTerm x = .ok v → imgOK v = true
    | .atom pre name, v, h => by
      obtain ⟨hd, h⟩ := foldTerm_atom_ok h
      obtain ⟨k, rfl⟩ | rfl | ⟨n, rfl⟩ := buildAtom_ok h <;> rfl
    | .compound conn ts, v, h => by
      obtain ⟨ts', ck, hts, -, h⟩ := foldTerm_compound_ok h
      exact buildCompound_imgOK ck ts' v (fold_terms_imgOK F ts ts' hts) h
    | .set l ts r, v, h => by
      obtain ⟨ts', k, hts, rfl⟩ := foldTerm_set_ok h
      simpa [imgOK, imgOKs_ofList] using mkSetSem_all imgOK ts' (fold_terms_imgOK F ts ts' hts)
    | .stmt cop s p, v, h => by
      obtain ⟨s', p', ck, hs, hp, -, rfl⟩ := foldTerm_stmt_ok h
      exact copBuild_imgOK ck s' p' (fold_term_imgOK F s s' hs) (fold_term_imgOK F p p' hp)
  theorem fold_terms_imgOK (F : EFormat) : ∀ (xs : LTerms) (vs : List Term), F.foldTerms xs = .ok vs → vs.all imgOK = true
    | .nil, vs, h => by cases h; rfl
    | .cons t ts, vs, h => by
      obtain ⟨t', ts', ht, hts, rfl⟩ := foldTerms_cons_ok h
      simp [fold_term_imgOK F t t' ht, fold_terms_imgOK F ts ts' hts]
end

/-- well-formedness of a whole value: ranges and image indexes -/
def Sentence.wf (s : Sentence) : Bool := imgOK s.term && Truth.inRange s.truthOrEmpty
def Narsese.wf : Narsese → Bool
  | .term t => imgOK t
  | .sentence s => Sentence.wf s
  | .task k => Sentence.wf k.sentence && Budget.inRange k.budget

theorem fold_sentence_wf (F : EFormat) (x : LSentence) (s : Sentence) (h : F.foldSentence x = .ok s) :
    Sentence.wf s = true := by
  unfold foldSentence at h
  obtain ⟨t, ht, h⟩ := Res.bind_ok h
  obtain ⟨tr, htr, h⟩ := Res.bind_ok h
  obtain ⟨st, _, h⟩ := Res.bind_ok h
  obtain ⟨p, _, h⟩ := Res.bind_ok h
  cases h
  obtain ⟨xs, _, hx⟩ := Res.bind_ok htr
  exact Sentence.fromPunctuation_and imgOK Truth.inRange rfl p st (fold_term_imgOK F _ _ ht)
    (truth_tryFromFloats_range xs tr hx)

/-- for all lexical values `x` and formats `F`: `fold(x) = Ok(v) ⇒ ranges(v) ∧ image_index(v)` -/
theorem fold_wf (F : EFormat) (x : LNarsese) (v : Narsese) (h : F.foldNarsese x = .ok v) : Narsese.wf v = true := by
  cases x with
  | term t =>
    obtain ⟨t', ht, rfl⟩ := Res.map_ok h
    exact fold_term_imgOK F t t' ht
  | sentence s =>
    obtain ⟨s', hs, rfl⟩ := Res.map_ok h
    exact fold_sentence_wf F s s' hs
  | task k =>
    obtain ⟨k', hk, rfl⟩ := Res.map_ok h
    unfold foldTask at hk
    obtain ⟨b, hb, hk⟩ := Res.bind_ok hk
    obtain ⟨s, hs, hk⟩ := Res.bind_ok hk
    cases hk
    obtain ⟨xs, _, hx⟩ := Res.bind_ok hb
    exact Bool.and_eq_true_iff.mpr ⟨fold_sentence_wf F _ s hs, budget_tryFromFloats_range xs b hx⟩

/-! ### the two facts the crate's printers rely on where they use a partial operation: `get_atom_name_unchecked`
is total on atoms (where they apply it), a statement has two components (where they index `[0]` / `[1]`) -/

theorem atomNameUnchecked_total (t : Term) (h : t.isAtom = true) : t.atomNameUnchecked.total = true := by
  cases t <;> simp_all [Term.atomNameUnchecked, Term.isAtom, Term.category, Res.total]
  next k a b => cases hk : k.isStatement <;> simp_all

theorem statement_has_two_components (t : Term) (h : t.isStatement = true) : t.components.length = 2 := by
  cases t <;> simp_all [Term.isStatement, Term.category, Term.components]

end Narsese.Props.C12
