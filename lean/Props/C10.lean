/-
  C10 — derived copulas and surface sugar mean what the documentation says.

  `denote*` below is written FROM THE DOCUMENTATION (not from the constructors): instance ↦
  inheritance from the one-element extension set, property ↦ inheritance into the one-element
  intension set, instance-property ↦ both, retrospective equivalence ↦ predictive equivalence with
  the operands swapped, image ↦ index of the first placeholder with the remaining components in order.
  Proved: what BOTH pipelines build for each of these (the enum parser's `parse_statement` /
  `parse_compound` step and fold's `fold_statement` / `fold_compound` step) is that meaning, for every
  format record and all operand terms (`C10a.lean`, table-independent). The end-to-end statements on strings,
  any spacing and nesting, are in `C10b.lean` (corollaries of the master theorem, `Proofs/Spelling/*` and
  `Proofs/Pipelines/*`).
-/
import NarseseModel.Fold
import NarseseModel.Gen.Formats
import Props.C10a
set_option autoImplicit false

namespace Narsese.Props.C10
open Narsese EFormat

/-! ### placeholder: whatever follows its prefix (shipped tables) -/

/-- fold: the placeholder prefix with ANY name folds to the placeholder (in the shipped formats the
placeholder prefix differs from the word prefix, which is compared first) -/
theorem placeholder_fold (F : EFormat) (hF : F ∈ [Gen.asciiE, Gen.latexE, Gen.hanE]) (name : Str) :
    F.foldAtom F.prePlaceholder name = .ok .placeholder := by
  have h : F.prePlaceholder ≠ F.preWord := by
    simp only [List.mem_cons, List.mem_nil_iff, or_false] at hF
    rcases hF with h | h | h <;> subst h <;> decide
  simp [foldAtom, foldAtomTable, List.find?, h, buildAtom]

/-! ### intervals denote their decimal value (leading zeros and `+` allowed) -/
example : parseUsize "0007".toList = some 7 ∧ parseUsize "7".toList = some 7 := by decide +kernel
theorem interval_value (F : EFormat) (hF : F ∈ [Gen.asciiE, Gen.latexE, Gen.hanE]) (name : Str) (n : Nat)
    (h : parseUsize name = some n) : F.foldAtom F.preInterval name = .ok (.interval n) := by
  have hd : F.foldAtomTable.find? (fun e => F.preInterval = e.1) = some (F.preInterval, .interval) := by
    simp only [List.mem_cons, List.mem_nil_iff, or_false] at hF
    rcases hF with h | h | h <;> subst h <;> decide +kernel
  simp [foldAtom, hd, buildAtom, h]

end Narsese.Props.C10
