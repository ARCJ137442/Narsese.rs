/-
  C04 (main theorems) — the enum parser is total: every input string yields Ok or Err, for every entry point.
-/
import Proofs.EParseTotal
import NarseseModel.Gen.Formats
set_option autoImplicit false

namespace Narsese.Props.C04
open Narsese EFormat

/-- the three shipped formats satisfy the (decidable) side condition: none of the keywords whose
emptiness would let a loop spin is empty — re-decided on the tables regenerated from the crate -/
theorem shipped_sane : ∀ F ∈ [Gen.asciiE, Gen.latexE, Gen.hanE], SaneAll F := by
  intro F hF
  apply saneAll_of_bool
  revert F
  decide +kernel

/-- `parse::<Narsese>` / `parse_chars` — for ALL strings (no bound on size or nesting) -/
theorem eparse_total (F : EFormat) (hs : SaneAll F) (input : Str) : (F.eparse input).total = true :=
  Narsese.eparse_total F hs input

/-- `parse_multi`: every element of the result, for every sequence of inputs -/
theorem parseMulti_total (F : EFormat) (hs : SaneAll F) (inputs : List Str) :
    ∀ r ∈ F.parseMulti inputs, r.total = true :=
  Narsese.parseMulti_total F hs _ inputs

/-- the stand-alone truth / budget parsers (the other two side doors are in `C04.lean`) -/
theorem truthDoor_total (F : EFormat) (hs : SaneAll F) (input : Str) : (F.parseTruthDoor input).total = true :=
  Narsese.truthDoor_total F hs input
theorem budgetDoor_total (F : EFormat) (hs : SaneAll F) (input : Str) : (F.parseBudgetDoor input).total = true :=
  Narsese.budgetDoor_total F hs input

/-- the termination argument, stated on its own: a successful term parse strictly advances the cursor,
and `3·|rest| + 2` units of fuel always suffice (the entry points supply `4·|rest| + 8`) -/
theorem term_progress_and_fuel (F : EFormat) (hs : SaneAll F) (fuel : Nat) (c : Cur) :
    F.parseTerm fuel c ≠ .panic ∧
    (∀ t c', F.parseTerm fuel c = .ok (t, c') → c'.rest.length < c.rest.length) ∧
    (3 * c.rest.length + 2 ≤ fuel → F.parseTerm fuel c ≠ .fuel) := by
  have := parseTerm_good F hs.toSane fuel c
  exact ⟨this.1, fun t c' h => by simpa using this.2.1 t c' h, this.2.2⟩

/-- all three shipped formats, all inputs -/
theorem shipped_total (input : Str) :
    (Gen.asciiE.eparse input).total = true ∧ (Gen.latexE.eparse input).total = true ∧ (Gen.hanE.eparse input).total = true :=
  ⟨eparse_total _ (shipped_sane _ (by simp)) _, eparse_total _ (shipped_sane _ (by simp)) _, eparse_total _ (shipped_sane _ (by simp)) _⟩

/-- non-vacuity: an adversarial input on which the crate panicked before the D3 repair evaluates to `err` in the
model -/
example : Gen.asciiE.eparse "(-, {{{{{{a".toList = .err := by decide +kernel

end Narsese.Props.C04
