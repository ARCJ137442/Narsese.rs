/-
  C05 (main theorems, parser half) — the lexical parser is total.

  PROVED AT FULL STRENGTH: for every input string (unbounded length and nesting, any characters) and every
  lexical format satisfying two decidable conditions — both decided below for the three shipped formats on
  the tables regenerated from the crate — `impl_lexical::parse` and `parse_term` return Ok or Err:
  every slice `env[a..b]` has `a ≤ b ≤ len` (no panic) and the recursion terminates with the fuel the entry
  point supplies (each successful segmentation consumes at least one character).
  * `lSaneB`: the compound / statement / set openers are non-empty (otherwise Rust recurses for ever);
  * `lItemsSaneB`: the budget (segmented from the left) and truth / stamp / punctuation (segmented from
    the right) cannot cross, because the last character of the budget's closing bracket occurs in none of the
    right-hand brackets, alphabets or punctuation marks. Without it `&env[begin..right_border]` panics.
  Together with `fold_total` (`C05.lean`) the whole lexical pipeline parse-then-fold is total.
-/
import Proofs.LexItemsTotal
import NarseseModel.Gen.Formats
import Props.C05
set_option autoImplicit false

namespace Narsese.Props.C05
open Narsese EFormat LFormat

theorem lsane_ascii : LItemsSane Gen.asciiL := ⟨lSane_of_bool _ (by decide +kernel), by decide +kernel⟩
theorem lsane_latex : LItemsSane Gen.latexL := ⟨lSane_of_bool _ (by decide +kernel), by decide +kernel⟩
theorem lsane_han : LItemsSane Gen.hanL := ⟨lSane_of_bool _ (by decide +kernel), by decide +kernel⟩

/-- `impl_lexical::parse` -/
theorem lparse_total (L : LFormat) (hs : LItemsSane L) (input : Str) : (L.lparse input).total = true :=
  Narsese.lparse_total L hs input

theorem lparseTerm_total (L : LFormat) (hs : LSane L) (input : Str) : (L.lparseTerm input).total = true :=
  Narsese.lparseTerm_total L hs input

/-- the three shipped lexical formats -/
theorem lparse_total_shipped (input : Str) :
    (Gen.asciiL.lparse input).total = true ∧ (Gen.latexL.lparse input).total = true ∧
    (Gen.hanL.lparse input).total = true :=
  ⟨lparse_total _ lsane_ascii input, lparse_total _ lsane_latex input, lparse_total _ lsane_han input⟩

theorem lparseTerm_total_shipped (input : Str) :
    (Gen.asciiL.lparseTerm input).total = true ∧ (Gen.latexL.lparseTerm input).total = true ∧
    (Gen.hanL.lparseTerm input).total = true :=
  ⟨lparseTerm_total _ lsane_ascii.term input, lparseTerm_total _ lsane_latex.term input,
   lparseTerm_total _ lsane_han.term input⟩

/-- every successful term segmentation consumes between 1 and `|env|` characters — the progress fact
behind termination, exported because the round-trip development uses it -/
theorem segTerm_progress (L : LFormat) (hs : LSane L) (fuel : Nat) (env : Str) (t : LTerm) (n : Nat)
    (h : L.segTerm fuel env = .ok (t, n)) : 1 ≤ n ∧ n ≤ env.length :=
  (segTerm_good L hs fuel env).2.1 t n h

/-- **the whole lexical pipeline is total**: parse, then fold whatever came out -/
theorem pipeline_total (L : LFormat) (hs : LItemsSane L) (F : EFormat) (input : Str) :
    ((L.lparse input).bind F.foldNarsese).total = true :=
  Res.bind_total (lparse_total L hs input) (fold_total F)

/-- necessity of the crossing condition: a format whose punctuation mark equals the last character of the
budget's closing bracket makes `parse_items` slice `env[2..1]` — a panic -/
def crossing : LFormat :=
  { Gen.asciiL with budgetL := "$".toList, budgetR := "$.".toList, punctuations := [".".toList] }
example : crossing.lparse "$$.".toList = .panic := by decide +kernel

end Narsese.Props.C05
