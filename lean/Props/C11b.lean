/-
  C11 — the executable reference grammar the check runs is sound for the semantics of the published grammar.

  The README grammar is read with its DECLARATIVE semantics (`NarseseModel/PegSem.lean`: `Ev`, the usual
  big-step PEG semantics with pest's implicit whitespace, atomic and silent rules and token trees — no fuel, no
  algorithm). The interpreter the check runs on the real formatter outputs (`referenceS`, with an explicit
  out-of-fuel outcome) is SOUND for it: whenever it returns a value `v` for a string `s`, the published grammar —
  the rules regenerated from README.md on every run — derives a tree for the whole of `s` from `narsese` whose
  reading is `v`. So each concrete comparison the check makes ("the grammar reads this formatter output as the
  same value the library's lexical parser returns") is a comparison with the grammar's own semantics, not with
  an unverified tool.
  That for EVERY well-formed value the formatter's output has such a derivation is `ascii_conforms`
  (`Props/C11c.lean`).
-/
import Proofs.Peg.Sound
import NarseseModel.Gen.ReadmeGrammar
set_option autoImplicit false

namespace Narsese.Props.C11
open Narsese Peg

/-- for every grammar: a value the reference returns is a reading by the grammar's semantics -/
theorem reference_sound (G : Grammar) (s : Str) (v : LNarsese) (h : referenceS G s = some v) : Reads G s v :=
  referenceS_sound G s v h

/-- … for the regenerated README grammar -/
theorem readme_reference_sound (s : Str) (v : LNarsese) (h : referenceS Gen.readmeGrammar s = some v) :
    Reads Gen.readmeGrammar s v := referenceS_sound _ s v h

/-- the interpreter's `ok` / `fail` answers are the semantics' answers, expression by expression -/
theorem interpreter_sound (G : Grammar) (fuel : Nat) (a : Bool) (p : Peg.Peg) (s : Str) :
    (∀ r k, runS G fuel a p s = .ok r k → Ev G a p s (some (r, k))) ∧ (runS G fuel a p s = .fail → Ev G a p s none) :=
  runS_sound G fuel a p s

/-- an instance, by computation + soundness: the grammar reads `<a --> b>. :|: %1;0.9%` as that sentence -/
example : Reads Gen.readmeGrammar "<a --> b>. :|: %1;0.9%".toList
    (.sentence { term := .stmt "-->".toList (.atom [] "a".toList) (.atom [] "b".toList), punct := ".".toList,
                 stamp := ":|:".toList, truth := ["1".toList, "0.9".toList] }) :=
  referenceS_sound _ _ _ (by decide +kernel)

end Narsese.Props.C11
