/-
  C17 — term mutators change exactly what they say, or fail and change nothing.
-/
import NarseseModel.Api
import Proofs.NumLemmas
set_option autoImplicit false

namespace Narsese.Props.C17
open Narsese

/-- renaming one of the five named atom kinds succeeds and is reported back verbatim -/
theorem setAtomName_named (k : AtomK) (old n : Str) :
    (Term.atom k old).setAtomName n = (.ok (), .atom k n) ∧
    ((Term.atom k old).setAtomName n).2.atomName = some n := by
  simp [Term.setAtomName, Term.atomName, Term.isAtom, Term.category, Term.atomNameUnchecked, Res.toOption]

/-- on an interval: succeeds exactly when the name is an unsigned machine-word decimal, and then sets it;
otherwise fails and leaves the interval unchanged -/
theorem setAtomName_interval (i : Nat) (n : Str) :
    (∀ v, parseUsize n = some v → (Term.interval i).setAtomName n = (.ok (), .interval v)) ∧
    (parseUsize n = none → (Term.interval i).setAtomName n = (.err, .interval i)) := by
  constructor
  · intro v h; simp [Term.setAtomName, h]
  · intro h; simp [Term.setAtomName, h]

/-- on a placeholder: succeeds and changes nothing -/
theorem setAtomName_placeholder (n : Str) : Term.placeholder.setAtomName n = (.ok (), .placeholder) := rfl

/-- on compounds and statements: fails and leaves the term unchanged -/
theorem setAtomName_nonatom (t : Term) (n : Str) (h : t.isAtom = false) : t.setAtomName n = (.err, t) := by
  cases t <;> simp_all [Term.setAtomName, Term.isAtom, Term.category]

/-- in every case, an `Err` leaves the term as it was -/
theorem setAtomName_err_unchanged (t : Term) (n : Str) (h : (t.setAtomName n).1 = .err) :
    (t.setAtomName n).2 = t := by
  cases t with
  | interval i =>
    cases hp : parseUsize n <;> simp_all [Term.setAtomName]
  | _ => simp_all [Term.setAtomName]

/-- `parseUsize s = some k` exactly when `s` is an optional `+` followed by at least one ASCII digit,
the digits denote `k`, and `k` fits the 64-bit machine word -/
theorem parseUsize_spec (s : Str) (k : Nat) :
    parseUsize s = some k ↔
      ∃ ds, (s = ds ∨ s = '+' :: ds) ∧ ds ≠ [] ∧ allDigits ds = true ∧ digitsVal 0 ds = k ∧ k < 2 ^ 64 :=
  parseUsize_eq_some_iff s k

example : parseUsize "18446744073709551615".toList = some 18446744073709551615 := by decide +kernel
example : parseUsize "18446744073709551616".toList = none := by decide +kernel
example : parseUsize "+007".toList = some 7 := by decide +kernel
example : parseUsize "+".toList = none ∧ parseUsize [] = none ∧ parseUsize "-0".toList = none := by decide +kernel

def variableArity : Term → Bool
  | .seqlike _ _ | .image _ _ _ | .setlike _ _ => true
  | _ => false

/-- appending components succeeds exactly for the variable-arity compounds -/
theorem push_ok_iff (t : Term) (cs : List Term) : (t.pushComponents cs).1 = .ok () ↔ variableArity t = true := by
  cases t <;> simp [Term.pushComponents, variableArity]

/-- ordered compounds: appended in order -/
theorem push_ordered (cs : List Term) :
    (∀ k ts, ((Term.seqlike k ts).pushComponents cs).2.components = ts.toList ++ cs) ∧
    (∀ k i ts, ((Term.image k i ts).pushComponents cs).2 = .image k i (Terms.ofList (ts.toList ++ cs))) := by
  constructor
  · intro k ts; simp [Term.pushComponents, Term.components, Terms.toList_ofList]
  · intro k i ts; simp [Term.pushComponents]

/-- unordered compounds: united — same constructor, and the components afterwards are `dedupSem` of the old ones
and the pushed ones. That this holds every old and every pushed component up to `sem`, nothing else, and no
duplicates is `dedupSem_acc`, `dedupSem_covers`, `dedupSem_sub`, `dedupSem_nodup` (Proofs/SetBuild.lean) -/
theorem push_unordered_mem (k : SetK) (ts : Terms) (cs : List Term) :
    ∃ us, ((Term.setlike k ts).pushComponents cs).2 = .setlike k us ∧ us.toList = dedupSem ts.toList cs := by
  exact ⟨_, rfl, by simp [Terms.toList_ofList]⟩

/-- atoms, negation, differences and statements: fails without modification -/
theorem push_fixed_unchanged (t : Term) (cs : List Term) (h : variableArity t = false) :
    t.pushComponents cs = (.err, t) := by
  cases t <;> simp_all [Term.pushComponents, variableArity]

theorem push_err_unchanged (t : Term) (cs : List Term) (h : (t.pushComponents cs).1 = .err) :
    (t.pushComponents cs).2 = t := by
  cases t <;> simp_all [Term.pushComponents]

end Narsese.Props.C17
