/-
  C10 (end to end) — the derived copulas and the image sugar mean what the documentation says, on strings,
  in both pipelines, at any nesting position and with any spacing.
  Corollaries of the master theorem (`Proofs/Spelling/*`, `Proofs/Pipelines/*`, `Props/C09b.lean`).
-/
import Props.C09b
import Props.C11
set_option autoImplicit false

namespace Narsese.Props.C10
open Narsese EFormat

/-- `parse_term` on `< S cop P >` (any spacing) for the four derived copulas returns the documented term; 4, 5, 6, 12
are the positions of the instance, property, instance-property and retrospective-equivalence entries in
`copulaTable` (`C09.derived_meaning`) -/
theorem derived_copulas_parse (F : EFormat) (hS : SurfaceOK F) (a b c d : Nat) (s p : STerm) (s' p' : Term)
    (hlen : 13 ≤ F.copulaTable.length) (hws : wfS F s = true) (hwp : wfS F p = true)
    (hs : den F s = some s') (hp : den F p = some p') (rest : Str) (hst : Stop F rest) (len : Nat) :
    (∀ fuel, 3 * (stxt F (.stmt a s b 4 c p d) ++ rest).length + 2 ≤ fuel →
      F.parseTerm fuel (mk len (stxt F (.stmt a s b 4 c p d) ++ rest)) = .ok (denoteInstance s' p', mk len rest)) ∧
    (∀ fuel, 3 * (stxt F (.stmt a s b 5 c p d) ++ rest).length + 2 ≤ fuel →
      F.parseTerm fuel (mk len (stxt F (.stmt a s b 5 c p d) ++ rest)) = .ok (denoteProperty s' p', mk len rest)) ∧
    (∀ fuel, 3 * (stxt F (.stmt a s b 6 c p d) ++ rest).length + 2 ≤ fuel →
      F.parseTerm fuel (mk len (stxt F (.stmt a s b 6 c p d) ++ rest)) =
        .ok (denoteInstanceProperty s' p', mk len rest)) ∧
    (∀ fuel, 3 * (stxt F (.stmt a s b 12 c p d) ++ rest).length + 2 ≤ fuel →
      F.parseTerm fuel (mk len (stxt F (.stmt a s b 12 c p d) ++ rest)) = .ok (denoteEquivRetro s' p', mk len rest)) := by
  obtain ⟨m1, m2, m3, m4⟩ := C09.derived_meaning F s' p'
  refine ⟨fun fuel hf => ?_, fun fuel hf => ?_, fun fuel hf => ?_, fun fuel hf => ?_⟩
  · rw [← m1]; exact C09.derived_statement F hS a b c d 4 s p s' p' (by omega) hws hwp hs hp rest hst len fuel hf
  · rw [← m2]; exact C09.derived_statement F hS a b c d 5 s p s' p' (by omega) hws hwp hs hp rest hst len fuel hf
  · rw [← m3]; exact C09.derived_statement F hS a b c d 6 s p s' p' (by omega) hws hwp hs hp rest hst len fuel hf
  · rw [← m4]; exact C09.derived_statement F hS a b c d 12 s p s' p' (by omega) hws hwp hs hp rest hst len fuel hf

/-- the lexical pipeline's half: folding the erased tree of ANY well-formed surface tree — a statement written with a
derived copula among them — gives its denotation -/
theorem derived_copulas_fold (F : EFormat) (hO : FoldOK F) (st : STerm) (hwf : wfS F st = true) (t : Term)
    (hd : den F st = some t) : F.foldTerm (erase F st) = .ok t := fold_erase hO st hwf t hd

/-- the denotation of a surface tree `( conn , c₁ , … , _ , … , cₙ )` with an image connecter is built by `finishT`
from the components' denotations: the position of the first placeholder becomes the index, the other components
keep their order -/
theorem image_surface (F : EFormat) (k : ImgK) (pre post : List Term) (h : noPlaceholder pre) :
    finishT (.img k) (pre ++ .placeholder :: post) = some (.image k pre.length (Terms.ofList (pre ++ post))) := by
  simp [finishT, image_index_enum pre post h]

/-- tie of the model's copula look-ahead list (`EFormat.copulas`, written out in the model) to what the crate's
`NarseseFormat::copulas()` yields, regenerated on every run: the theorems of this file talk about the model's list -/
theorem copulas_lookahead_tie :
    Gen.asciiE.copulas = Gen.asciiCopulasOrder ∧ Gen.latexE.copulas = Gen.latexCopulasOrder ∧
    Gen.hanE.copulas = Gen.hanCopulasOrder := C11.copulas_order

end Narsese.Props.C10
