/-
  C05 — the lexical parser and lexical folding are total.

  Proved at full strength here: **folding ANY lexical value** (arbitrary strings in every field,
  unknown prefixes / connecters / copulas, wrong arities, missing placeholders, non-numeric or
  out-of-range numbers, malformed stamps) returns Ok or Err — never panics — for every enum format.
  The lexical *parser* part (`lparse_total`, `lparseTerm_total`) is in `C05b.lean`.
-/
import Proofs.FoldLemmas
set_option autoImplicit false

namespace Narsese.Props.C05
open Narsese EFormat

/-- the image index computed from the first placeholder is always in range (guards `new_image_*`) -/
theorem image_index_in_range (ts : List Term) (i : Nat) (ts' : List Term)
    (h : toTermsWithImage ts 0 none [] = (some i, ts')) : i ≤ ts'.length :=
  toTermsWithImage_index ts i ts' h

/-- folding a lexical TERM never panics, for every format record and every term -/
theorem fold_term_total (F : EFormat) (x : LTerm) : (F.foldTerm x).total = true := foldTerm_total F x

/-- truth / budget strings: validated before the panicking constructors are reached -/
theorem fold_truth_total (xs : List Str) : (foldTruth xs).total = true := foldTruth_total xs
theorem fold_budget_total (xs : List Str) : (foldBudget xs).total = true := foldBudget_total xs

/-- for all lexical values `x` and all enum formats `F`, `x.try_fold_into(F)` is Ok or Err -/
theorem fold_total (F : EFormat) (x : LNarsese) : (F.foldNarsese x).total = true := by
  cases x with
  | term t => exact Res.map_total (foldTerm_total F t)
  | sentence s => exact Res.map_total (foldSentence_total F s)
  | task k => exact Res.map_total (foldTask_total F k)

/-- non-vacuity: a compound with an unknown connecter folds to `Err` -/
example : (default : EFormat).foldNarsese (.term (.compound ['?'] .nil)) = .err := by decide

end Narsese.Props.C05
