/-
  C10 (table-independent part) — documented meaning of every copula of the parser's table, the derived
  copulas, image index in both pipelines, placeholder prefix: for EVERY format record (no generated table is
  used here).
-/
import NarseseModel.Fold
set_option autoImplicit false

namespace Narsese.Props.C10
open Narsese EFormat

def denoteInstance (S P : Term) : Term := .bin .inh (.setlike .extSet (.cons S .nil)) P
def denoteProperty (S P : Term) : Term := .bin .inh S (.setlike .intSet (.cons P .nil))
def denoteInstanceProperty (S P : Term) : Term :=
  .bin .inh (.setlike .extSet (.cons S .nil)) (.setlike .intSet (.cons P .nil))
def denoteEquivRetro (S P : Term) : Term := .bin .equivPred P S

/-- which constructor class each of the 13 copula keywords stands for, per the documentation -/
def documentedCopula (F : EFormat) : List (Str × (Term → Term → Term)) :=
  [ (F.copInh, fun s p => .bin .inh s p), (F.copSim, fun s p => .bin .sim s p),
    (F.copImpl, fun s p => .bin .impl s p), (F.copEquiv, fun s p => .bin .equiv s p),
    (F.copInstance, denoteInstance), (F.copProperty, denoteProperty), (F.copInstProp, denoteInstanceProperty),
    (F.copImplPred, fun s p => .bin .implPred s p), (F.copImplConc, fun s p => .bin .implConc s p),
    (F.copImplRetro, fun s p => .bin .implRetro s p), (F.copEquivPred, fun s p => .bin .equivPred s p),
    (F.copEquivConc, fun s p => .bin .equivConc s p), (F.copEquivRetro, denoteEquivRetro) ]

/-- **the table both pipelines use maps every copula keyword to its documented meaning**, in the same order -/
theorem copulaTable_denotes (F : EFormat) (S P : Term) :
    F.copulaTable.map (fun e => (e.1, e.2.build S P)) = (documentedCopula F).map (fun e => (e.1, e.2 S P)) := by
  simp [copulaTable, documentedCopula, CopK.build, denoteInstance, denoteProperty, denoteInstanceProperty, denoteEquivRetro]

theorem sugar_instance (S P : Term) : CopK.instance_.build S P = denoteInstance S P := rfl
theorem sugar_property (S P : Term) : CopK.property.build S P = denoteProperty S P := rfl
theorem sugar_instance_property (S P : Term) : CopK.instProp.build S P = denoteInstanceProperty S P := rfl
theorem sugar_equiv_retrospective (S P : Term) : CopK.equivRetro.build S P = denoteEquivRetro S P := rfl

/-- a one-element set built by either pipeline is the one-element set -/
theorem singleton_set (t : Term) : mkSetSem [t] = [t] := by simp [mkSetSem, dedupSem]

/-! ### images: index of the FIRST placeholder, remaining components in order -/

def noPlaceholder (ts : List Term) : Prop := ∀ t ∈ ts, t ≠ .placeholder

/-- enum parser: `position` + `remove` -/
theorem image_index_enum : ∀ (pre post : List Term), noPlaceholder pre →
    extractPlaceholder (pre ++ .placeholder :: post) = some (pre.length, pre ++ post)
  | [], post, _ => by simp [extractPlaceholder]
  | t :: pre, post, h => by
    have ht : t ≠ .placeholder := h t (by simp)
    have ih := image_index_enum pre post (fun x hx => h x (by simp [hx]))
    simp [extractPlaceholder, ht, ih]

/-- conversely, the placeholder that is found is the first one -/
theorem extract_shape : ∀ (l : List Term) (i : Nat) (ts' : List Term),
    extractPlaceholder l = some (i, ts') →
    ∃ pre post, l = pre ++ .placeholder :: post ∧ noPlaceholder pre ∧ i = pre.length ∧ ts' = pre ++ post
  | [], _, _, h => nomatch h
  | t :: ts, i, ts', h => by
    unfold extractPlaceholder at h
    split at h
    · next ht =>
      cases h
      exact ⟨[], ts, ht ▸ rfl, nofun, rfl, rfl⟩
    · next ht =>
      obtain ⟨⟨j, us⟩, hr, hp⟩ := Option.map_eq_some_iff.mp h
      cases hp
      obtain ⟨pre, post, rfl, hnp, rfl, rfl⟩ := extract_shape ts j us hr
      refine ⟨t :: pre, post, rfl, fun x hx => ?_, rfl, rfl⟩
      rcases List.mem_cons.mp hx with rfl | hx
      · exact ht
      · exact hnp x hx

theorem toTermsWithImage_acc : ∀ (ts : List Term) (n : Nat) (i : Nat) (acc : List Term),
    toTermsWithImage ts n (some i) acc = (some i, acc ++ ts)
  | [], _, _, acc => by simp [toTermsWithImage]
  | t :: ts, n, i, acc => by simp [toTermsWithImage, toTermsWithImage_acc ts (n + 1) i (acc ++ [t])]

/-- fold: `to_terms_with_image` (later placeholders stay components, exactly as the enum parser leaves them) -/
theorem image_index_fold : ∀ (pre post acc : List Term) (n : Nat), noPlaceholder pre →
    toTermsWithImage (pre ++ .placeholder :: post) n none acc = (some (n + pre.length), acc ++ (pre ++ post))
  | [], post, acc, n, _ => by simp [toTermsWithImage, toTermsWithImage_acc]
  | t :: pre, post, acc, n, h => by
    have ht : t ≠ .placeholder := h t (by simp)
    have ih := image_index_fold pre post (acc ++ [t]) (n + 1) (fun x hx => h x (by simp [hx]))
    simp only [List.cons_append, toTermsWithImage, ht, decide_false, Bool.false_and, if_false,
      Bool.false_eq_true, ih, List.length_cons, List.append_assoc]
    congr 2; omega

/-- both pipelines build `image(i, t₁..tₙ)` from `t₁..tᵢ, _, tᵢ₊₁..tₙ` -/
theorem image_both_pipelines (k : ImgK) (pre post : List Term) (h : noPlaceholder pre) :
    buildCompound (.img k) (pre ++ .placeholder :: post) = .ok (.image k pre.length (Terms.ofList (pre ++ post))) ∧
    extractPlaceholder (pre ++ .placeholder :: post) = some (pre.length, pre ++ post) := by
  refine ⟨?_, image_index_enum pre post h⟩
  have := image_index_fold pre post [] 0 h
  simp only [List.nil_append, Nat.zero_add] at this
  simp only [buildCompound, this, newImage]
  simp

/-! ### placeholder: whatever follows its prefix -/

/-- the placeholder prefix is tried first, and the scanned name is discarded -/
theorem placeholder_ignores_name (F : EFormat) (c : Cur) (h : c.startsWith F.prePlaceholder = true) :
    ∃ c', F.parseAtom c = .ok (.placeholder, c') := by
  simp [parseAtom, atomHeads, h]

end Narsese.Props.C10
