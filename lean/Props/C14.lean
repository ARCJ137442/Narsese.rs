/-
  C14 — component access, category and capacity of terms are mutually consistent.
-/
import NarseseModel.Api
import Proofs.FoldLemmas
set_option autoImplicit false

namespace Narsese.Props.C14
open Narsese

theorem imageIter_past (idx : Nat) : ∀ (ts : List Term) (now : Nat), idx < now → imageIter idx now ts = ts
  | [], now, h => by simp [imageIter, Nat.ne_of_gt h]
  | t :: ts, now, h => by simp [imageIter, Nat.ne_of_gt h, imageIter_past idx ts (now + 1) (by omega)]

/-- the image iterator, `d` steps before the stored index, yields `d` raw components, the placeholder, and the
remaining raw components -/
theorem imageIter_general : ∀ (d : Nat) (ts : List Term) (now : Nat), d ≤ ts.length →
    imageIter (now + d) now ts = ts.take d ++ [.placeholder] ++ ts.drop d
  | 0, [], now, _ => by simp [imageIter]
  | 0, t :: ts, now, _ => by simp [imageIter, imageIter_past now ts (now + 2) (by omega)]
  | d + 1, t :: ts, now, h => by
    have ih := imageIter_general d ts (now + 1) (by simpa using h)
    rw [show now + 1 + d = now + (d + 1) by omega] at ih
    simp [imageIter, ih]

/-- **placeholder at its recorded index**: for `i ≤ |ts|` the iterator yields
`t₁..tᵢ, _, tᵢ₊₁..tₙ` -/
theorem imageIterator_eq_insert (i : Nat) (ts : List Term) (h : i ≤ ts.length) :
    imageIter i 0 ts = ts.take i ++ [.placeholder] ++ ts.drop i := by
  simpa using imageIter_general i ts 0 h

/-- well-formed: every image index is at most the number of components (all nesting levels are
irrelevant here: the accessors look at one level) -/
def wfTop : Term → Bool
  | .image _ i ts => i ≤ ts.length
  | _ => true

/-- **consuming extraction = borrowing accessor including the placeholder**, same order -/
theorem extract_eq_components (t : Term) (h : wfTop t = true) :
    t.extract = .ok t.componentsWithPlaceholder := by
  cases t with
  | image k i ts =>
    have hi : i ≤ ts.toList.length := by simpa [wfTop, Terms.length_toList] using h
    simp [Term.extract, Term.vecInsert, Term.componentsWithPlaceholder, hi, imageIterator_eq_insert i ts.toList hi]
  | _ => rfl

/-- extraction never panics on a well-formed term, and only an out-of-range image index can make it panic -/
theorem extract_total_iff (t : Term) : t.extract = .panic ↔ wfTop t = false := by
  cases t <;> simp [Term.extract, Term.vecInsert, wfTop, Terms.length_toList]

/-- **the placeholder-free accessor = the other one minus the placeholder at the index** -/
theorem components_eq_erase (k : ImgK) (i : Nat) (ts : Terms) (h : i ≤ ts.length) :
    (Term.image k i ts).componentsWithPlaceholder.eraseIdx i = (Term.image k i ts).components ∧
    (Term.image k i ts).componentsWithPlaceholder[i]? = some .placeholder ∧
    (Term.image k i ts).componentsWithPlaceholder.length = ts.length + 1 := by
  have hi : i ≤ ts.toList.length := by simpa [Terms.length_toList] using h
  have hl : (ts.toList.take i).length = i := by simp [List.length_take, Nat.min_eq_left hi]
  simp only [Term.componentsWithPlaceholder, Term.components, imageIterator_eq_insert i ts.toList hi]
  refine ⟨?_, ?_, ?_⟩
  · rw [List.append_assoc, List.eraseIdx_append_of_length_le (by omega)]
    simp [hl]
  · rw [List.append_assoc, List.getElem?_append_right (by omega)]
    simp [hl]
  · simp [List.length_take, Terms.length_toList]
    omega

theorem nonimage_accessors_agree (t : Term) (h : ∀ k i ts, t ≠ .image k i ts) :
    t.componentsWithPlaceholder = t.components := by
  cases t <;> simp_all [Term.componentsWithPlaceholder]

/-- exactly one of atom / compound / statement -/
theorem category_trichotomy (t : Term) :
    t.isAtom.toNat + t.isCompound.toNat + t.isStatement.toNat = 1 := by
  unfold Term.isAtom Term.isCompound Term.isStatement
  cases t.category <;> decide

/-- capacity class vs component count and orderedness -/
theorem capacity_spec (t : Term) :
    (t.capacity = .atom ↔ t.isAtom = true) ∧
    (t.capacity = .atom ∨ t.capacity = .unary → t.components.length = 1) ∧
    (t.capacity = .binaryVec ∨ t.capacity = .binarySet → t.components.length = 2) ∧
    (t.capacity = .binarySet → ∃ k a b, t = .bin k a b ∧ k.symmetric = true) ∧
    (t.capacity = .set ↔ ∃ k ts, t = .setlike k ts) ∧
    (t.capacity = .vec ↔ (∃ k ts, t = .seqlike k ts) ∨ ∃ k i ts, t = .image k i ts) := by
  cases t with
  | bin k a b =>
    cases hk : k.symmetric <;>
      simp [Term.capacity, Term.isAtom, Term.category, Term.components, hk]
    all_goals (split <;> simp)
  | _ => simp [Term.capacity, Term.isAtom, Term.category, Term.components]

/-- lexical terms: extraction returns the stored components -/
theorem lex_extract (x : LTerm) :
    (∀ c ts, x = .compound c ts → x.extract = ts.toList) ∧ (∀ l ts r, x = .set l ts r → x.extract = ts.toList) ∧
    (∀ c s p, x = .stmt c s p → x.extract = [s, p]) ∧ (∀ p n, x = .atom p n → x.extract = [x]) := by
  refine ⟨?_, ?_, ?_, ?_⟩ <;> intros <;> subst_vars <;> rfl

theorem buildCompound_category (ck : EFormat.ConnK) (ts : List Term) (v : Term)
    (hk : ∀ k, ck = .diff k → k.isStatement = false)
    (h : EFormat.buildCompound ck ts = .ok v) : v.category = .compound := by
  have h := buildCompound_ok h
  cases ck with
  | set k => rw [h]; rfl
  | seq k => rw [h]; rfl
  | diff k => obtain ⟨a, b, r, -, rfl⟩ := h; simp [Term.category, hk k rfl]
  | img k => obtain ⟨i, ts', -, -, rfl⟩ := h; rfl
  | neg => obtain ⟨a, r, -, rfl⟩ := h; rfl
  | operatorUnsupported => exact h.elim

/-- **the category of a lexical term equals the category of the enum term it folds to** -/
theorem lexCategory_fold (F : EFormat) (x : LTerm) (v : Term) (h : F.foldTerm x = .ok v) :
    x.category = v.category := by
  cases x with
  | atom pre name =>
    obtain ⟨hd, h⟩ := foldTerm_atom_ok h
    obtain ⟨k, rfl⟩ | rfl | ⟨n, rfl⟩ := buildAtom_ok h <;> rfl
  | compound conn ts =>
    obtain ⟨ts', ck, -, hmem, h⟩ := foldTerm_compound_ok h
    refine (buildCompound_category ck _ _ ?_ h).symm
    rintro k rfl
    -- the two differences are the only binary connecters of the table
    simp [EFormat.foldConnTable] at hmem
    rcases hmem with h | h <;> (rw [h.2]; rfl)
  | set l ts r =>
    obtain ⟨ts', k, -, rfl⟩ := foldTerm_set_ok h
    rfl
  | stmt cop s p =>
    obtain ⟨s', p', ck, -, -, hmem, rfl⟩ := foldTerm_stmt_ok h
    cases ck with
    | plain k =>
      simp [EFormat.copulaTable] at hmem
      have : k.isStatement = true := by
        rcases hmem with h|h|h|h|h|h|h|h|h <;> (rw [h.2]; rfl)
      simp [EFormat.CopK.build, LTerm.category, Term.category, this]
    | _ => simp [EFormat.CopK.build, LTerm.category, Term.category, BinK.isStatement]

end Narsese.Props.C14
