/-
  C03 (table-independent part) — the keyword→constructor tables of the enum parser and of fold coincide,
  for EVERY format record (no generated table is used here).
-/
import NarseseModel.Fold
set_option autoImplicit false

namespace Narsese.Props.C03
open Narsese EFormat

/-- the enum parser's connecter table is fold's, rotated, behind the "operator" entry that only rejects -/
theorem connecters_eq (F : EFormat) :
    F.connecters = (F.preOperator, .operatorUnsupported) :: (F.foldConnTable.drop 7 ++ F.foldConnTable.take 7) := rfl

/-- the keyword→constructor table of the ENUM PARSER and the one of FOLD agree on every connecter
(as sets of pairs; the parser's extra "operator" entry only rejects) -/
theorem connecter_tables_agree (F : EFormat) :
    ∀ e, e ∈ F.foldConnTable → e ∈ F.connecters := by
  intro e he
  rw [← List.take_append_drop 7 F.foldConnTable, List.mem_append] at he
  rw [connecters_eq, List.mem_cons, List.mem_append]
  exact .inr he.symm

theorem mem_foldConnTable_of_mem_connecters (F : EFormat) :
    ∀ e, e ∈ F.connecters → e.2 ≠ .operatorUnsupported → e ∈ F.foldConnTable := by
  intro e he hne
  rw [connecters_eq, List.mem_cons, List.mem_append] at he
  rw [← List.take_append_drop 7 F.foldConnTable, List.mem_append]
  rcases he with rfl | he
  · exact absurd rfl hne
  · exact he.symm

/-- atoms: the prefix→kind tables of the enum parser and of fold hold the same pairs (the word entry stands first
in fold's table and last in the parser's) -/
theorem atom_tables_agree (F : EFormat) : ∀ e, e ∈ F.foldAtomTable ↔ e ∈ F.atomHeads := by
  intro e
  rw [show F.atomHeads = F.foldAtomTable.drop 1 ++ F.foldAtomTable.take 1 from rfl, List.mem_append, Or.comm,
    ← List.mem_append, List.take_append_drop]

/-- copulas: fold uses the very table the enum parser uses (including the four derived copulas) -/
theorem copula_table_shared (F : EFormat) (cop : Str) (s p : Term) (ck : CopK)
    (h : F.copulaTable.find? (fun e => cop = e.1) = some (cop, ck)) :
    F.foldStatement cop s p = .ok (ck.build s p) := by
  simp [foldStatement, h]

end Narsese.Props.C03
