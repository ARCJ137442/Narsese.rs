/-
  C16 — the Typst rendering is unambiguous (terms: `typst_term_injective`; whole values — terms, sentences,
  tasks, also across kinds — `typst_injective`; each item by itself: `typst_punct_injective` …).

  For the markup constants regenerated from the crate (`Gen.typstC`; the needed facts
  about them — which constants begin and end with a space, whose first words differ — are decidable and
  decided below), two well-formed terms with the same Typst text are THE SAME term (same constructors,
  same components in the same printed order, same names and numbers):

      typst(t) = typst(u)  ⇒  t = u          (`typst_term_injective`)

  which is stronger than the property's "not semantically equal ⇒ different text". Well-formed (`wfTy`):
  names consist of characters `{:?}` prints unchanged and contain no whitespace (narrower than what the enum
  parsers can produce: they also return names with characters `{:?}` escapes, e.g. U+0345), intervals fit the
  machine word, compounds are non-empty, image indexes in range and image
  components placeholder-free.
  Method (`Proofs/Typst/*`): `post_process_whitespace` keeps the WORDS of a string (`words_post`); the words
  of a rendering are a structurally recursive token serialization (`words_raw`); a decoder inverts that
  serialization (`dec_ser`: prefix / infix compound forms, bracket sets, statements, atoms), hence it is
  injective.
-/
import Proofs.Typst.ValueInj
import NarseseModel.Gen.Formats
import Props.C01b
set_option autoImplicit false

namespace Narsese.Props.C16
open Narsese TypstConsts

/-- the facts about the crate's markup constants (re-decided on the regenerated table) -/
theorem typstOK_crate : TypstOK Gen.typstC := ⟨by decide +kernel, by decide +kernel, by decide +kernel⟩

/-- for every table of constants satisfying `TypstOK` … -/
theorem typst_term_injective_gen (C : TypstConsts) (hT : TypstOK C) (t u : Term) (ht : wfTy C t = true)
    (hu : wfTy C u = true) (h : C.typstTerm t = C.typstTerm u) : t = u :=
  typstTerm_injective hT t u ht hu h

/-- … for the crate's constants -/
theorem typst_term_injective (t u : Term) (ht : wfTy Gen.typstC t = true) (hu : wfTy Gen.typstC u = true)
    (h : Gen.typstC.typstTerm t = Gen.typstC.typstTerm u) : t = u :=
  typstTerm_injective typstOK_crate t u ht hu h

/-- contrapositive, the form in which the property states it; DIFFERENT terms render differently, a fortiori
terms that are not semantically equal (`sem t u = false` gives `t ≠ u` by `sem_refl`) -/
theorem typst_distinguishes (t u : Term) (ht : wfTy Gen.typstC t = true) (hu : wfTy Gen.typstC u = true)
    (hne : t ≠ u) : Gen.typstC.typstTerm t ≠ Gen.typstC.typstTerm u :=
  fun h => hne (typst_term_injective t u ht hu h)

/-- the words of a rendering are its token serialization; the decoder reads it back -/
theorem typst_decodes (t : Term) (ht : wfTy Gen.typstC t = true) :
    decT Gen.typstC (tb t) (Gen.typstC.words (Gen.typstC.typstTerm t)) = some (t, []) := by
  rw [typstTerm, words_post, words_raw typstOK_crate.layout typstOK_crate.digits t ht]
  simpa using dec_ser typstOK_crate t ht (tb t) [] (Nat.le_refl _)

/-- the sentence-level facts about the constants (re-decided on the regenerated table) -/
theorem typstItemsOK_crate : TypstItemsOK Gen.typstC := ⟨typstOK_crate, by decide +kernel⟩

/-- two well-formed terms, sentences or tasks — of the same or of different kinds — with the same Typst text are
the same value -/
theorem typst_injective (v w : Narsese) (hv : wfTyN Gen.typstC v = true) (hw : wfTyN Gen.typstC w = true)
    (h : typstN Gen.typstC v = typstN Gen.typstC w) : v = w :=
  typstN_injective typstItemsOK_crate v w hv hw h

theorem typst_injective_gen (C : TypstConsts) (hV : TypstItemsOK C) (v w : Narsese) (hv : wfTyN C v = true)
    (hw : wfTyN C w = true) (h : typstN C v = typstN C w) : v = w :=
  typstN_injective hV v w hv hw h

/-! ### the stand-alone renderings of the items (the property names each of them) -/

section items
open TypstConsts

theorem typst_punct_injective (p q : Punct) (h : Gen.typstC.typstPunct p = Gen.typstC.typstPunct q) : p = q :=
  typstPunct_injective typstItemsOK_crate p q h

theorem typst_stamp_injective (s1 s2 : Stamp) (h1 : wfStamp s1 = true) (h2 : wfStamp s2 = true)
    (h : Gen.typstC.typstStamp s1 = Gen.typstC.typstStamp s2) : s1 = s2 :=
  typstStamp_injective typstItemsOK_crate s1 s2 h1 h2 h

theorem typst_truth_injective (a b : Truth) (ha : wfTruth a = true) (hb : wfTruth b = true)
    (h : Gen.typstC.typstTruth a = Gen.typstC.typstTruth b) : a = b :=
  typstTruth_injective typstItemsOK_crate a b ha hb h

theorem typst_budget_injective (a b : Budget) (ha : wfBudget a = true) (hb : wfBudget b = true)
    (h : Gen.typstC.typstBudget a = Gen.typstC.typstBudget b) : a = b :=
  typstBudget_injective typstItemsOK_crate a b ha hb h

end items

/-- non-vacuity: the sample term of C01 is well-formed for the renderer -/
example : wfTyN Gen.typstC (.term C01.sample) = true := by decide +kernel

/-- necessity of the name condition: a name with a doubled space and one with a single space collide
(whitespace inside a name is squeezed by the post-processing) -/
example : Gen.typstC.typstTerm (.atom .word "a  b".toList) = Gen.typstC.typstTerm (.atom .word "a b".toList) := by
  decide +kernel

end Narsese.Props.C16
