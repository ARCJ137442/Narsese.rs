/-
  C01 (main theorems, whole values) — enum Narsese survives format-then-parse.

  PROVED (no bound on term depth, arity, name length or number of digits):
  for every format record satisfying the decidable side conditions `FormatOK` (term level) and `itemsOKB`
  (sentence / task level) — both decided below for the three shipped tables as regenerated from the crate —
  and every well-formed Narsese value `v` of any of the three kinds,

      parse (format v) = Ok v

  through the real entry point (`NarseseFormat::parse` = `eparse`: `build_mid_result` with its ordered
  back-off alternatives, `transform_mid_result`, the fuel the entry point itself supplies).

  Hypotheses, all decidable:
  * `wfN`: the term is `wfT` (see `C01b.lean`); truth / budget numbers are `Num.ok` (text = what Rust prints
    for the bits, value in [0,1]); a fixed stamp fits `isize`.
  * `topN`: only for values WITHOUT a budget in front (terms and sentences): the printed term must not be
    taken for a budget by the lenient budget reader which `consume_one` tries first. Either the budget
    opener and the printed term are prefix-incompatible, or the term is `$name` sharing the opener with the
    budget and the name does not begin with a digit (then the reader provably backs off, `backoffOKB`), or
    — format-level criterion `topFmtOKB`, true for ASCII and LaTeX — the term is anything but an
    independent variable.
    What it excludes are top-level independent variables whose name BEGINS with a digit. Among them is the
    recorded finding K1 (`$1`, `$1.`): `k1_*` below prove that the model, like the crate, fails on those, so the
    hypothesis cannot be dropped; others of the excluded values (`$1x`, `$1?`) do read back.
-/
import Proofs.Spelling.Formatted
import NarseseModel.Gen.Formats
import Props.C01b
import Props.C11
set_option autoImplicit false

namespace Narsese.Props.C01
open Narsese EFormat

/-- the sentence-level side condition holds for the three shipped formats (re-decided on the regenerated
tables): punctuation marks / stamp keywords pairwise distinguishable, never mistaken for a space, the budget
opener or (stamps) the truth opener; number-list separators and closers are not number characters; what
follows a fixed stamp's number is not a sign or digit; `space.format_items = space.parse` -/
theorem itemsOK_ascii : ItemsOK Gen.asciiE := ⟨formatOK_ascii, by decide +kernel⟩
theorem itemsOK_latex : ItemsOK Gen.latexE := ⟨formatOK_latex, by decide +kernel⟩
theorem itemsOK_han : ItemsOK Gen.hanE := ⟨formatOK_han, by decide +kernel⟩

/-- **C01** for every format satisfying the side conditions -/
theorem enum_roundtrip (F : EFormat) (hI : ItemsOK F) (v : Narsese) (hwf : wfN F v = true)
    (htop : topN F v = true) : F.eparse (F.fmtNarsese v) = .ok v :=
  eparse_fmtNarsese hI v hwf htop

/-- … and for the three shipped formats -/
theorem enum_roundtrip_ascii (v : Narsese) (hwf : wfN Gen.asciiE v = true) (htop : topN Gen.asciiE v = true) :
    Gen.asciiE.eparse (Gen.asciiE.fmtNarsese v) = .ok v := eparse_fmtNarsese itemsOK_ascii v hwf htop
theorem enum_roundtrip_latex (v : Narsese) (hwf : wfN Gen.latexE v = true) (htop : topN Gen.latexE v = true) :
    Gen.latexE.eparse (Gen.latexE.fmtNarsese v) = .ok v := eparse_fmtNarsese itemsOK_latex v hwf htop
theorem enum_roundtrip_han (v : Narsese) (hwf : wfN Gen.hanE v = true) (htop : topN Gen.hanE v = true) :
    Gen.hanE.eparse (Gen.hanE.fmtNarsese v) = .ok v := eparse_fmtNarsese itemsOK_han v hwf htop

/-- tasks need no top-level condition at all: the budget comes first -/
theorem enum_roundtrip_task (F : EFormat) (hI : ItemsOK F) (k : Task) (hwf : wfTask F k = true) :
    F.eparse (F.fmtTask k) = .ok (.task k) := eparse_fmt_task hI k hwf

/-- ASCII and LaTeX: the top-level condition only excludes independent variables whose name begins with a
digit (`topFmtOKB` decided on the regenerated tables) -/
theorem topFmt_ascii : topFmtOKB Gen.asciiE = true := by decide +kernel
theorem topFmt_latex : topFmtOKB Gen.latexE = true := by decide +kernel
theorem backoff_ascii : backoffOKB Gen.asciiE = true := by decide +kernel
theorem backoff_latex : backoffOKB Gen.latexE = true := by decide +kernel

theorem enum_roundtrip_ascii_term (t : Term) (hwf : wfT Gen.asciiE t = true)
    (h : isIVar t = false ∨ ∃ c cs, t = .atom .ivar (c :: cs) ∧ isDigit c = false) :
    Gen.asciiE.eparse (Gen.asciiE.fmtTerm t) = .ok (.term t) := by
  refine eparse_fmt_term itemsOK_ascii t hwf ?_
  rcases h with h | ⟨c, cs, rfl, hd⟩
  · exact topOK_of_notIVar formatOK_ascii topFmt_ascii t hwf h
  · refine topOK_of_B itemsOK_ascii _ hwf ?_
    have hb : (Gen.asciiE.budgetL == Gen.asciiE.preIVar) = true := by decide +kernel
    simp [topOKB, backoff_ascii, hb, hd]

/-- the kind of the value is preserved (what C15 needs from the round trip) -/
theorem roundtrip_kind (F : EFormat) (hI : ItemsOK F) (v : Narsese) (hwf : wfN F v = true)
    (htop : topN F v = true) : (F.eparse (F.fmtNarsese v)).map NValue.kind = .ok v.kind := by
  rw [eparse_fmtNarsese hI v hwf htop]; rfl

/-- printing is injective on well-formed values: two values with the same text are the same value -/
theorem fmtNarsese_injective (F : EFormat) (hI : ItemsOK F) (v w : Narsese)
    (hv : wfN F v = true) (hw : wfN F w = true) (tv : topN F v = true) (tw : topN F w = true)
    (h : F.fmtNarsese v = F.fmtNarsese w) : v = w := by
  have h1 := eparse_fmtNarsese hI v hv tv
  have h2 := eparse_fmtNarsese hI w hw tw
  rw [h, h2] at h1
  exact (Res.ok.inj h1).symm

/-! ### non-vacuity and necessity of the hypotheses -/

def n09 : Num := { bits := 4606281698874543309, text := "0.9".toList }
def n05 : Num := { bits := 4602678819172646912, text := "0.5".toList }
def n1 : Num := { bits := 4607182418800017408, text := "1".toList }

/-- a task with every optional item present, over the nested sample term of `C01b.lean` -/
def sampleTask : Narsese :=
  .task { sentence := .judgement sample (.double n1 n09) (.fixed (-137)), budget := .triple n05 n09 n1 }
def sampleSentence : Narsese := .sentence (.goal sample (.single n05) .future)
def sampleQuestion : Narsese := .sentence (.question (.atom .ivar "x1".toList) .eternal)

/-- the sample sentences are well-formed as soon as the sample term is: what remains does not depend on the format -/
theorem sampleTask_wf (F : EFormat) (h : wfT F sample = true) : wfN F sampleTask = true := by
  simp only [wfN, wfTask, wfSentence, sampleTask, Sentence.term, h, Bool.true_and]; decide +kernel
theorem sampleSentence_wf (F : EFormat) (h : wfT F sample = true) : wfN F sampleSentence = true := by
  simp only [wfN, wfSentence, sampleSentence, Sentence.term, h, Bool.true_and]; decide +kernel

example : wfN Gen.asciiE sampleTask = true ∧ wfN Gen.latexE sampleTask = true ∧ wfN Gen.hanE sampleTask = true ∧
    topN Gen.asciiE sampleTask = true :=
  ⟨sampleTask_wf _ sample_wf.1, sampleTask_wf _ sample_wf.2.1, sampleTask_wf _ sample_wf.2.2, rfl⟩
example : wfN Gen.asciiE sampleSentence = true ∧ topN Gen.asciiE sampleSentence = true ∧
    wfN Gen.latexE sampleSentence = true ∧ topN Gen.latexE sampleSentence = true ∧
    wfN Gen.hanE sampleSentence = true ∧ topN Gen.hanE sampleSentence = true :=
  ⟨sampleSentence_wf _ sample_wf.1, by decide +kernel, sampleSentence_wf _ sample_wf.2.1, by decide +kernel,
    sampleSentence_wf _ sample_wf.2.2, by decide +kernel⟩
example : wfN Gen.asciiE sampleQuestion = true ∧ topN Gen.asciiE sampleQuestion = true ∧
    wfN Gen.latexE sampleQuestion = true ∧ topN Gen.latexE sampleQuestion = true := by decide +kernel

/-- K1 (recorded finding): the excluded case really fails — `$1` is a well-formed independent variable whose
printed form the whole-value parser does not read back; so `topN` cannot be dropped -/
def k1Term : Term := .atom .ivar "1".toList
theorem k1_wf : wfT Gen.asciiE k1Term = true := by decide +kernel
theorem k1_excluded : topN Gen.asciiE (.term k1Term) = false := by decide +kernel
theorem k1_fails : Gen.asciiE.eparse (Gen.asciiE.fmtNarsese (.term k1Term)) ≠ .ok (.term k1Term) := by
  decide +kernel
theorem k1_sentence_fails :
    Gen.asciiE.eparse (Gen.asciiE.fmtNarsese (.sentence (.judgement k1Term .empty .eternal))) ≠
      .ok (.sentence (.judgement k1Term .empty .eternal)) := by
  decide +kernel

/-- tie of the model's copula look-ahead list (`EFormat.copulas`, written out in the model) to what the crate's
`NarseseFormat::copulas()` yields, regenerated on every run: the theorems of this file talk about the model's list -/
theorem copulas_lookahead_tie :
    Gen.asciiE.copulas = Gen.asciiCopulasOrder ∧ Gen.latexE.copulas = Gen.latexCopulasOrder ∧
    Gen.hanE.copulas = Gen.hanCopulasOrder := C11.copulas_order

end Narsese.Props.C01
