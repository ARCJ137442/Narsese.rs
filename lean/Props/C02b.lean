/-
  C02 (main theorems) — lexical Narsese survives format-then-parse.

  PROVED (no bound on nesting, arity, name length, number of truth / budget entries):
  for every lexical format satisfying three decidable side conditions — `lFormatOKB` (term level),
  `lItemsOKB` (sentence / task level), `lWsOKB` (the formatter's own spaces are exactly what `idealize_env`
  deletes) — all decided below for the three shipped formats on the tables regenerated from the crate —
  and every lexical value `v` drawn from the format's vocabulary,

      parse (format v) = Ok v          (field for field, same order)

  through the real entry point (`impl_lexical::parse`: `idealize_env`, `parse_items` with its left / right
  segmentation, `segment_term` with its try-in-order alternatives, `MidParseResult::fold`, the entry
  point's own fuel).

  "Drawn from the vocabulary" (`wfLNB`, decidable):
  * atoms: prefix from the dictionary and the first entry COMPATIBLE with the atom's own text (neither a prefix of
    the other: a name that is the beginning of an earlier prefix is excluded too); name of identifier characters,
    containing no copula and not ending in the beginning of one; a prefix-less atom has a name;
  * compounds: connecter from the dictionary, at least one component; sets: a bracket PAIR from the
    dictionary, at least one component; statements: copula from the dictionary;
  * punctuation from the dictionary; stamp empty or `l ++ content ++ r` for a dictionary pair, content over
    the stamp alphabet; truth / budget entries non-empty strings of digits and dots;
  * a value without budget is not taken for one with a budget, and a bare term is not taken for a line with
    right-hand items (both are evaluations of the segmenters on the value's own text);
  `wsFreeN`: no string of the value contains a whitespace character (those are deleted before parsing).
-/
import Proofs.LRT.Bool
import NarseseModel.Gen.Formats
import Props.C02
set_option autoImplicit false

namespace Narsese.Props.C02
open Narsese LFormat

/-- the side conditions hold for the three shipped lexical formats (re-decided on the regenerated tables) -/
theorem litemsOK_ascii : LItemsOK Gen.asciiL := ⟨⟨by decide +kernel⟩, by decide +kernel⟩
theorem litemsOK_latex : LItemsOK Gen.latexL := ⟨⟨by decide +kernel⟩, by decide +kernel⟩
theorem litemsOK_han : LItemsOK Gen.hanL := ⟨⟨by decide +kernel⟩, by decide +kernel⟩
theorem lws_ascii : lWsOKB Gen.asciiL = true := by decide +kernel
theorem lws_latex : lWsOKB Gen.latexL = true := by decide +kernel
theorem lws_han : lWsOKB Gen.hanL = true := by decide +kernel

/-- **C02** for every format satisfying the side conditions -/
theorem lex_roundtrip (L : LFormat) (hI : LItemsOK L) (hW : lWsOKB L = true) (v : LNarsese)
    (hv : wfLNB L v = true) (hws : wsFreeN L v = true) : L.lparse (L.fmtNarsese v) = .ok v :=
  lparse_fmtNarsese_bool hI hW v hv hws

/-- … and for the three shipped formats -/
theorem lex_roundtrip_ascii (v : LNarsese) (hv : wfLNB Gen.asciiL v = true) (hws : wsFreeN Gen.asciiL v = true) :
    Gen.asciiL.lparse (Gen.asciiL.fmtNarsese v) = .ok v := lex_roundtrip _ litemsOK_ascii lws_ascii v hv hws
theorem lex_roundtrip_latex (v : LNarsese) (hv : wfLNB Gen.latexL v = true) (hws : wsFreeN Gen.latexL v = true) :
    Gen.latexL.lparse (Gen.latexL.fmtNarsese v) = .ok v := lex_roundtrip _ litemsOK_latex lws_latex v hv hws
theorem lex_roundtrip_han (v : LNarsese) (hv : wfLNB Gen.hanL v = true) (hws : wsFreeN Gen.hanL v = true) :
    Gen.hanL.lparse (Gen.hanL.fmtNarsese v) = .ok v := lex_roundtrip _ litemsOK_han lws_han v hv hws

/-- term level, on the parser's own interface: the segmenter reads a printed term back and reports exactly
its length, whatever follows (as long as it does not continue the last atom's name) -/
theorem lex_term_roundtrip (L : LFormat) (hL : LFormatOK L) (t : LTerm) (ht : wfLT L t = true) (rest : Str)
    (hst : StopL L rest) (fuel : Nat) (hfuel : 3 * ((noSp L).fmtTerm t ++ rest).length + 2 ≤ fuel) :
    L.segTerm fuel ((noSp L).fmtTerm t ++ rest) = .ok (t, ((noSp L).fmtTerm t).length) :=
  segTerm_fmtTerm hL t ht rest hst fuel hfuel

/-- the kind of the value survives (lexical half of C15) -/
theorem lex_roundtrip_kind (L : LFormat) (hI : LItemsOK L) (hW : lWsOKB L = true) (v : LNarsese)
    (hv : wfLNB L v = true) (hws : wsFreeN L v = true) :
    (L.lparse (L.fmtNarsese v)).map NValue.kind = .ok v.kind := by
  rw [lex_roundtrip L hI hW v hv hws]; rfl

/-- printing is injective on vocabulary-drawn values -/
theorem lfmt_injective (L : LFormat) (hI : LItemsOK L) (hW : lWsOKB L = true) (v w : LNarsese)
    (hv : wfLNB L v = true) (hw : wfLNB L w = true) (sv : wsFreeN L v = true) (sw : wsFreeN L w = true)
    (h : L.fmtNarsese v = L.fmtNarsese w) : v = w := by
  have h1 := lex_roundtrip L hI hW v hv sv
  have h2 := lex_roundtrip L hI hW w hw sw
  rw [h, h2] at h1
  exact (Res.ok.inj h1).symm

/-! ### non-vacuity -/

def w' (s : String) : LTerm := .atom [] s.toList

/-- `$0.5;0.9$ <(&&, a, {b-c, $x}) --> d>. :!-137: %1;0.9%` -/
def sampleAscii : LNarsese :=
  .task { budget := ["0.5".toList, "0.9".toList],
          sentence := { term := .stmt "-->".toList
                          (.compound "&&".toList (.cons (w' "a")
                            (.cons (.set "{".toList (.cons (w' "b-c") (.cons (.atom "$".toList "x".toList) .nil)) "}".toList) .nil)))
                          (w' "d"),
                        punct := ".".toList, stamp := ":!-137:".toList, truth := ["1".toList, "0.9".toList] } }

example : wfLNB Gen.asciiL sampleAscii = true ∧ wsFreeN Gen.asciiL sampleAscii = true := by decide +kernel

/-- a bare independent variable `$1` — the enum parser's K1 — IS read back by the lexical parser -/
example : wfLNB Gen.asciiL (.term (.atom "$".toList "1".toList)) = true := by decide +kernel

/-- necessity of the non-emptiness hypotheses: an empty compound is printed but not read back -/
example : Gen.asciiL.lparse (Gen.asciiL.fmtNarsese (.term (.compound "&&".toList .nil))) = .err := by
  decide +kernel

end Narsese.Props.C02
