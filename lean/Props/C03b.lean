/-
  C03 (main theorem, formatter-emitted strings) — both pipelines agree on everything the enum formatter
  can emit.

  PROVED (all sizes): for every pair of an enum format `F` and a lexical format `L` that use the same
  template keywords (`agreeB`), with `F` satisfying the C01 side conditions and `foldOKB` (every fold table
  maps each keyword to its own constructor — where the D4 slip lived) and `L` satisfying the C02 side
  conditions — all decided below for the three shipped pairs on the regenerated tables — and every
  well-formed enum value `v` whose lexical image is vocabulary-drawn:

      enum_parse_F (format_F v) = Ok v      and      fold_F (lexical_parse_L (format_F v)) = Ok v.

  Ingredients: `toLex` (the lexical image), `fmt_toLex` (the enum formatter prints, character for
  character, what the lexical formatter prints for the image; sentence lines agree after `idealize_env`),
  the lexical round trip (C02), `fold_toLexN` (folding the image gives the value back: every constructor,
  images via `to_terms_with_image`, sets via the duplicate-free builder, numbers via `f64::from_str`, stamps and
  punctuation through the enum parser's side doors), and the enum round trip (C01).
  NOT covered by this theorem: the same strings re-spaced or written with the derived copulas; that is
  `pipelines_agree_every_spelling` (`C03c.lean`).
-/
import Proofs.Pipelines.Fold
import Props.C01c
import Props.C02b
import Props.C03
import Props.C11
set_option autoImplicit false

namespace Narsese.Props.C03
open Narsese EFormat

theorem agree_ascii : Agree Gen.asciiE Gen.asciiL := agree_of_bool (by decide +kernel)
theorem agree_latex : Agree Gen.latexE Gen.latexL := agree_of_bool (by decide +kernel)
theorem agree_han : Agree Gen.hanE Gen.hanL := agree_of_bool (by decide +kernel)
theorem foldOK_ascii : FoldOK Gen.asciiE := foldOK_of_bool (by decide +kernel)
theorem foldOK_latex : FoldOK Gen.latexE := foldOK_of_bool (by decide +kernel)
theorem foldOK_han : FoldOK Gen.hanE := foldOK_of_bool (by decide +kernel)

/-- **C03 on formatter-emitted strings**, for every pair of formats satisfying the side conditions -/
theorem pipelines_agree_formatted (F : EFormat) (L : LFormat) (hI : ItemsOK F) (hO : FoldOK F) (hA : Agree F L)
    (hLI : LItemsOK L) (hW : lWsOKB L = true) (v : Narsese) (hwf : wfN F v = true) (htop : topN F v = true)
    (hlv : wfLNB L (toLexN F v) = true) (hws : wsFreeN L (toLexN F v) = true) :
    F.eparse (F.fmtNarsese v) = .ok v ∧ (L.lparse (F.fmtNarsese v)).bind F.foldNarsese = .ok v :=
  pipelines_agree_on_formatted hI hO hA hLI hW v hwf htop hlv hws

/-- the three shipped pairs -/
theorem pipelines_agree_ascii (v : Narsese) (hwf : wfN Gen.asciiE v = true) (htop : topN Gen.asciiE v = true)
    (hlv : wfLNB Gen.asciiL (toLexN Gen.asciiE v) = true) (hws : wsFreeN Gen.asciiL (toLexN Gen.asciiE v) = true) :
    Gen.asciiE.eparse (Gen.asciiE.fmtNarsese v) = .ok v ∧
    (Gen.asciiL.lparse (Gen.asciiE.fmtNarsese v)).bind Gen.asciiE.foldNarsese = .ok v :=
  pipelines_agree_on_formatted C01.itemsOK_ascii foldOK_ascii agree_ascii C02.litemsOK_ascii C02.lws_ascii v hwf htop hlv hws
theorem pipelines_agree_latex (v : Narsese) (hwf : wfN Gen.latexE v = true) (htop : topN Gen.latexE v = true)
    (hlv : wfLNB Gen.latexL (toLexN Gen.latexE v) = true) (hws : wsFreeN Gen.latexL (toLexN Gen.latexE v) = true) :
    Gen.latexE.eparse (Gen.latexE.fmtNarsese v) = .ok v ∧
    (Gen.latexL.lparse (Gen.latexE.fmtNarsese v)).bind Gen.latexE.foldNarsese = .ok v :=
  pipelines_agree_on_formatted C01.itemsOK_latex foldOK_latex agree_latex C02.litemsOK_latex C02.lws_latex v hwf htop hlv hws
theorem pipelines_agree_han (v : Narsese) (hwf : wfN Gen.hanE v = true) (htop : topN Gen.hanE v = true)
    (hlv : wfLNB Gen.hanL (toLexN Gen.hanE v) = true) (hws : wsFreeN Gen.hanL (toLexN Gen.hanE v) = true) :
    Gen.hanE.eparse (Gen.hanE.fmtNarsese v) = .ok v ∧
    (Gen.hanL.lparse (Gen.hanE.fmtNarsese v)).bind Gen.hanE.foldNarsese = .ok v :=
  pipelines_agree_on_formatted C01.itemsOK_han foldOK_han agree_han C02.litemsOK_han C02.lws_han v hwf htop hlv hws

/-- folding the lexical image of ANY well-formed enum value gives the value back -/
theorem fold_image (F : EFormat) (hI : ItemsOK F) (hO : FoldOK F) (v : Narsese) (hwf : wfN F v = true) :
    F.foldNarsese (toLexN F v) = .ok v := fold_toLexN hI hO v hwf

/-- the enum formatter prints what the lexical formatter prints for the image (terms, character for character) -/
theorem formatters_agree (F : EFormat) (L : LFormat) (hA : Agree F L) (t : Term) :
    L.fmtTerm (toLex F t) = F.fmtTerm t := fmt_toLex hA t

/-- non-vacuity: the C01 sample task satisfies all hypotheses in the three formats -/
example : wfLNB Gen.asciiL (toLexN Gen.asciiE C01.sampleTask) = true ∧
    wsFreeN Gen.asciiL (toLexN Gen.asciiE C01.sampleTask) = true ∧
    wfLNB Gen.latexL (toLexN Gen.latexE C01.sampleTask) = true ∧
    wfLNB Gen.hanL (toLexN Gen.hanE C01.sampleTask) = true := by decide +kernel

/-- tie of the model's copula look-ahead list (`EFormat.copulas`, written out in the model) to what the crate's
`NarseseFormat::copulas()` yields, regenerated on every run: the theorems of this file talk about the model's list -/
theorem copulas_lookahead_tie :
    Gen.asciiE.copulas = Gen.asciiCopulasOrder ∧ Gen.latexE.copulas = Gen.latexCopulasOrder ∧
    Gen.hanE.copulas = Gen.hanCopulasOrder := C11.copulas_order

end Narsese.Props.C03
