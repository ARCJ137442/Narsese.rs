/-
  C15 / C04 (the mid-result side door): `parse::<NarseseOptions<…>>` returns the slots `build_mid_result` fills;
  `has_task` / `has_sentence` on them classify the input exactly as the whole-value parser does — the kind of
  `parse(s)` IS a function of the filled slots — and the door is total like the other entry points.
-/
import Proofs.EParseTotal
import NarseseModel.EDoors
set_option autoImplicit false

namespace Narsese.Props.C15
open Narsese EFormat

/-- whenever the whole-value parser succeeds, the slot door succeeds, and the value's kind is the slots' kind:
task iff budget, term and punctuation are present; sentence iff term and punctuation but no budget; term otherwise -/
theorem mid_door_kind (F : EFormat) (s : Str) (v : Narsese) (h : F.eparse s = .ok v) :
    ∃ m, F.parseMidDoor s = .ok m ∧ v.kind = m.kind ∧ m.term.isSome = true := by
  unfold eparse runState at h
  unfold parseMidDoor
  generalize F.buildMid (midFuel (Cur.ofEnv s)) (Cur.ofEnv s) {} = r at h ⊢
  cases r with
  | ok p =>
    obtain ⟨c, m⟩ := p
    dsimp only at h
    rw [transformMid_eq] at h
    cases ht : m.term with
    | none => rw [ht] at h; cases h
    | some t =>
      rw [ht] at h
      cases h
      exact ⟨m, rfl, Mid.form_kind ht, by rw [ht]; rfl⟩
  | _ => cases h

/-- the slot door is total: `Ok` or `Err` on every input -/
theorem mid_door_total (F : EFormat) (hs : SaneAll F) (input : Str) : (F.parseMidDoor input).total = true := by
  unfold parseMidDoor
  exact (buildMid_sat F hs (midFuel (Cur.ofEnv input)) (Cur.ofEnv input) {}).elim (fun _ _ => rfl) (fun _ => rfl)
    (absurd (by simp [midFuel, Cur.n]))

/-- `has_task` implies `has_sentence`; the kind is 2 / 1 / 0 accordingly -/
theorem mid_kind_cases (m : Mid) : (m.hasTask = true → m.hasSentence = true) ∧ m.kind ≤ 2 := by
  refine ⟨?_, ?_⟩
  · simp only [Mid.hasTask, Mid.hasSentence, Bool.and_eq_true]
    exact fun h => ⟨h.1.2, h.2⟩
  · simp only [Mid.kind]
    split
    · omega
    · split <;> omega

end Narsese.Props.C15
