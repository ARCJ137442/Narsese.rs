/-
  C11 — every string the ASCII formatters produce for a well-formed value is a sentence of the README grammar,
  classified as the same kind, with the same tree as the lexical parser returns.

  "The grammar reads the string `s` as the value `v`" is `Reads Gen.readmeGrammar s v`: the grammar regenerated from
  README.md derives — in its DECLARATIVE semantics `Ev`, no fuel, no interpreter — a tree for the WHOLE of `s` from
  `narsese`, and that tree reads back (`toNarsese`) as exactly `v`: same kind, prefixes, names, connecters, component
  order, brackets, copulas, punctuation, stamp text, truth and budget entries. The semantics is deterministic, so
  this reading is the only one (`ascii_reading_unique`).
  Hypotheses on the value, in three strengths: the decidable grammar-side well-formedness `gValOKB` (spelled out in
  NarseseModel/PegWF.lean; `ascii_conforms`); the hypotheses of C02 (`wfLNB`: keywords drawn from the ASCII
  dictionaries regenerated from the crate; `wsFreeN`) plus `gExtraB` (`ascii_conforms_wf`); C02's hypotheses and a
  restriction on NAMES alone (`gNamesN`; `ascii_conforms_names`) — the property's (letters, digits, `_`, inner `-`),
  narrowed by K3 and by asking that a name BEGIN with a letter or a digit. What they need of the format is decided on
  the regenerated ASCII tables (`layout_ascii`, `vocab_ascii`, `vocab2_ascii`). Enum values are covered through their
  lexical image (`ascii_conforms_enum`), the grammar block of README.en.md through its being the same grammar
  (`readme_en_same`, found D7; `ascii_conforms_en`).

  K3 (known finding, see `k3_rejected`): names containing `_-_` (more generally
  `punct_sym "-" punct_sym`, the grammar's first copula alternative) are excluded by `gNameOKB`; for them
  the property is FALSE of the unchanged crate and README — the grammar rejects `a_-_b` while the library prints
  and reads it.
-/
import Proofs.Peg.Vocab2
import Proofs.Peg.Read
import Proofs.Peg.Enum
import Proofs.Peg.Det
import Proofs.Peg.K3
import Props.C02b
import Props.C03b
set_option autoImplicit false

namespace Narsese.Props.C11
open Narsese Peg

/-- the ASCII layout characters are the grammar's literals -/
theorem layout_ascii : GLayout Gen.asciiL := by
  constructor <;> decide +kernel

/-- every ASCII keyword (connecter, copula, punctuation, set bracket, atom prefix) of the regenerated table is read
whole by the corresponding grammar rule -/
theorem vocab_ascii : vocabFactsB Gen.asciiL = true := by decide +kernel

/-- README.en.md publishes the same grammar as README.md (both ```pest blocks are re-translated on every run):
the same rules under the same names, in whatever order -/
theorem readme_en_same :
    (Gen.readmeRules.all (fun r => decide (Gen.readmeGrammarEn.rule? r.name = some r)) &&
     Gen.readmeRulesEn.all (fun r => decide (Gen.readmeGrammar.rule? r.name = some r))) = true := by decide +kernel

/-- the published grammar reads the ASCII text of every value satisfying `gValOKB` as exactly that value -/
theorem ascii_conforms (v : LNarsese) (h : gValOKB Gen.asciiL v = true) :
    Reads Gen.readmeGrammar (Gen.asciiL.fmtNarsese v) v :=
  ⟨valTree Gen.asciiL v, derives_value layout_ascii v h, toNarsese_tree layout_ascii v h⟩

/-- the derivation itself -/
theorem ascii_derivation (v : LNarsese) (h : gValOKB Gen.asciiL v = true) :
    DerivesAll Gen.readmeGrammar "narsese" (Gen.asciiL.fmtNarsese v) (valTree Gen.asciiL v) :=
  derives_value layout_ascii v h

/-- the kind: the only child of the derived tree is a `task`, `sentence` or `term` node, as the value is -/
theorem ascii_kind (v : LNarsese) :
    ∃ k, (valTree Gen.asciiL v).kids = [k] ∧ k.rule = (match v with | .term _ => "term" | .sentence _ => "sentence" | .task _ => "task") := by
  cases v with
  | term t => exact ⟨_, rfl, termTree_rule _ t⟩
  | sentence s => exact ⟨_, rfl, rfl⟩
  | task k => exact ⟨_, rfl, rfl⟩

/-- from the hypotheses of C02 plus `gExtraB` (names are grammar names, stamps are `:`…`:`, a non-task text is not
`$…$…`): the grammar's reading is the lexical parser's result -/
theorem ascii_conforms_wf (v : LNarsese) (hv : wfLNB Gen.asciiL v = true) (hws : wsFreeN Gen.asciiL v = true)
    (hx : gExtraB Gen.asciiL v = true) :
    ∃ w, Gen.asciiL.lparse (Gen.asciiL.fmtNarsese v) = .ok w ∧ Reads Gen.readmeGrammar (Gen.asciiL.fmtNarsese v) w :=
  ⟨v, C02.lex_roundtrip_ascii v hv hws, ascii_conforms v (gVal_of_wf vocab_ascii v hv hx)⟩

theorem vocab2_ascii : vocabFacts2B Gen.asciiL = true := by decide +kernel

/-- in the property's own terms: for every vocabulary-consistent lexical value (the hypotheses of C02) whose atom
names are grammar names (`gNamesN`: the property's restriction on names, K3 and a leading `_` excluded), the lexical
parser reads the ASCII text back and the published grammar reads it as the same value, and as no other. Stamp shape
and the `$` condition of `gExtraB` follow from the stamp brackets / prefixes of the regenerated table (`vocab2_ascii`) -/
theorem ascii_conforms_names (v : LNarsese) (hv : wfLNB Gen.asciiL v = true) (hws : wsFreeN Gen.asciiL v = true)
    (hn : gNamesN v = true) :
    Gen.asciiL.lparse (Gen.asciiL.fmtNarsese v) = .ok v ∧ Reads Gen.readmeGrammar (Gen.asciiL.fmtNarsese v) v ∧
    ∀ w, Reads Gen.readmeGrammar (Gen.asciiL.fmtNarsese v) w → w = v := by
  have hx := gExtra_of_names layout_ascii vocab2_ascii v hv hn
  have hg := gVal_of_wf vocab_ascii v hv hx
  exact ⟨C02.lex_roundtrip_ascii v hv hws, ascii_conforms v hg, fun w hw => reads_unique hw (ascii_conforms v hg)⟩

theorem spaces_ascii : Gen.asciiE.spaceTerms = Gen.asciiE.spaceItems := by decide +kernel

/-- the enum formatter: its output is the lexical formatter's output for the lexical image (`efmt_eq_lfmt`), so the
grammar reads it as the image -/
theorem ascii_conforms_enum (x : Narsese) (h : gValOKB Gen.asciiL (toLexN Gen.asciiE x) = true) :
    Reads Gen.readmeGrammar (Gen.asciiE.fmtNarsese x) (toLexN Gen.asciiE x) := by
  rw [efmt_eq_lfmt C03.agree_ascii spaces_ascii x]
  exact ascii_conforms _ h

/-- the two published blocks have the same rule and class lookups … -/
theorem readme_en_lookups (n : String) : Gen.readmeGrammar.rule? n = Gen.readmeGrammarEn.rule? n := by
  have h := readme_en_same
  simp only [Bool.and_eq_true, List.all_eq_true, decide_eq_true_eq] at h
  exact rule_lookup_eq (G := Gen.readmeGrammar) (G' := Gen.readmeGrammarEn) h.1 h.2 n

/-- … hence the same for the grammar as published in README.en.md (the semantics depends on a grammar only through
its lookups, `reads_congr`) -/
theorem ascii_conforms_en (v : LNarsese) (h : gValOKB Gen.asciiL v = true) :
    Reads Gen.readmeGrammarEn (Gen.asciiL.fmtNarsese v) v :=
  reads_congr readme_en_lookups (fun _ => rfl) (ascii_conforms v h)

/-! ### non-vacuity, and the finding -/

/-- `$0.5;0.9$ <(&&, a, {b-c, $x}) --> d>. :!-137: %1;0.9%` satisfies every hypothesis -/
example : gValOKB Gen.asciiL C02.sampleAscii = true ∧ wfLNB Gen.asciiL C02.sampleAscii = true ∧
    gExtraB Gen.asciiL C02.sampleAscii = true := by decide +kernel

/-- an enum task (the C01 sample) satisfies the enum theorem's hypothesis -/
example : gValOKB Gen.asciiL (toLexN Gen.asciiE C01.sampleTask) = true := by decide +kernel

/-- bare terms and `$`-variables as whole values -/
example : gValOKB Gen.asciiL (.term (.atom "$".toList "x1".toList)) = true ∧
    gValOKB Gen.asciiL (.sentence { term := .atom "$".toList "1".toList, punct := ".".toList, stamp := [], truth := [] }) = true ∧
    gValOKB Gen.asciiL (.term (.compound "/".toList (.cons (.atom [] "a".toList) (.cons (.atom "_".toList []) .nil)))) = true := by
  decide +kernel

/-- K3: the name `a_-_b` is outside `gNameOKB` … -/
example : gNameOKB "a_-_b".toList = false ∧ gNameOKB "a_-b".toList = true ∧ gNameOKB "go-to".toList = true := by
  decide +kernel

/-- … and the published grammar has NO reading of the formatter's output `a_-_b` (an instance of the class
`k3_class`), nor of a judgement about it (the interpreter answers "no value" within its fuel; by soundness and
determinism of the semantics there is no derivation at all), although the lexical parser reads both back (replayed
on the real crate by the check) -/
theorem k3_rejected :
    (∀ v, ¬ Reads Gen.readmeGrammar "a_-_b".toList v) ∧
    (∀ v, ¬ Reads Gen.readmeGrammar "<a_-_b --> c>.".toList v) ∧
    Gen.asciiL.lparse "a_-_b".toList = .ok (.term (.atom [] "a_-_b".toList)) :=
  ⟨k3_class 'a' '_' '_' [] "b".toList (by decide +kernel) rfl (by decide +kernel) (by decide +kernel)
     (fun s hs hsuf => absurd (List.suffix_nil.mp hsuf) hs),
   no_reading_of_run _ (by decide +kernel), by decide +kernel⟩

/-- K3 is a class of names, not one name: a word `c v1 x - z w` — `c` a letter / number, `v1` name characters, `x` and `z`
punctuation / symbol characters (within the property's names: `_` or `-`), this being the first place in the name
where the grammar's copula pattern begins — has NO reading by the published grammar, although the library prints
it as it stands. So the exclusion `noCopIn` in the hypothesis of `ascii_conforms` is necessary. -/
theorem k3_every_such_name (c x z : Char) (v1 w : Str) (hc : lnB c = true) (hv : v1.all acB = true)
    (hx : psB x = true) (hz : psB z = true)
    (hfirst : ∀ s, s ≠ [] → s <:+ v1 → gcopB (s ++ x :: '-' :: z :: w) = false) :
    ∀ val, ¬ Reads Gen.readmeGrammar (Gen.asciiL.fmtNarsese (.term (.atom [] (c :: v1 ++ x :: '-' :: z :: w)))) val := by
  have := k3_class c x z v1 w hc hv hx hz hfirst
  simpa [LFormat.fmtNarsese, LFormat.fmtTerm] using this

/-- instance: `go_-_to` -/
example : ∀ val, ¬ Reads Gen.readmeGrammar "go_-_to".toList val :=
  k3_class 'g' '_' '_' ['o'] "to".toList (by decide +kernel) (by decide +kernel) (by decide +kernel) (by decide +kernel)
    (fun s hs hsuf => by
      rcases List.suffix_cons_iff.mp hsuf with rfl | h
      · decide +kernel
      · exact absurd (List.suffix_nil.mp h) hs)

/-! ### uniqueness: the grammar classifies the string as THIS kind and tree and no other -/

/-- the semantics of the published grammar is deterministic -/
theorem grammar_deterministic (G : Grammar) {a : Bool} {p : Peg.Peg} {s : Str} {r1 r2 : Option (Str × List PTree)}
    (h1 : Ev G a p s r1) (h2 : Ev G a p s r2) : r1 = r2 := ev_det h1 h2

/-- any reading the grammar has of the formatter's output is the printed value -/
theorem ascii_reading_unique (v w : LNarsese) (h : gValOKB Gen.asciiL v = true)
    (hw : Reads Gen.readmeGrammar (Gen.asciiL.fmtNarsese v) w) : w = v :=
  reads_unique hw (ascii_conforms v h)

end Narsese.Props.C11
