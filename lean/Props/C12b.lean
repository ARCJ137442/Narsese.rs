/-
  C12 (enum parser part) — values produced by PARSING are always well-formed: proved at full strength.
-/
import Proofs.EParseWF
import Props.C08
import NarseseModel.Gen.Formats
set_option autoImplicit false

namespace Narsese.Props.C12
open Narsese EFormat

/-- for all strings `s` (well-formed or garbage, any length) and ALL format records `F`:
`enum_parse_F(s) = Ok(v) ⇒ wf(v)`, where `wf` = atom names other than the placeholder non-empty, no empty
compound or set (an image's own placeholder counts as content), every image index at most its number
of components, every truth / budget component in [0,1] — at every nesting depth. Arity of negation and
of the two differences is structural (one / two boxed operands). -/
theorem eparse_wf (F : EFormat) (input : Str) (v : Narsese) (h : F.eparse input = .ok v) :
    narseseWF v = true := Narsese.eparse_wf F input v h

/-- the same for every element `parse_multi` returns (it is `map eparse`, C08) -/
theorem parseMulti_wf (F : EFormat) (inputs : List Str) (v : Narsese)
    (h : Res.ok v ∈ F.parseMulti inputs) : narseseWF v = true := by
  rw [Props.C08.parseMulti_eq] at h
  obtain ⟨i, _, hi⟩ := List.mem_map.mp h
  exact Narsese.eparse_wf F i v hi

/-- the stand-alone truth / budget parsers only return in-range values -/
theorem truthDoor_range (F : EFormat) (input : Str) (t : Truth) (h : F.parseTruthDoor input = .ok t) :
    truthOK t = true := by
  unfold parseTruthDoor at h
  revert h
  refine (consumeTruth_range F (Cur.ofEnv input)).elim (fun p ht h => ?_) nofun nofun
  simp only [eagerErr_eq_ok, PRes.toRes, Res.ok.injEq] at h
  exact h ▸ ht

theorem budgetDoor_range (F : EFormat) (input : Str) (b : Budget) (h : F.parseBudgetDoor input = .ok b) :
    budgetOK b = true := by
  unfold parseBudgetDoor at h
  revert h
  refine (consumeBudget_range F (Cur.ofEnv input)).elim (fun p hb h => ?_) nofun nofun
  simp only [eagerErr_eq_ok, PRes.toRes, Res.ok.injEq] at h
  exact h ▸ hb

/-- non-vacuity: a lenient input (unterminated number list, unterminated brackets) that IS accepted -/
example : (Gen.asciiE.eparse "(&&, <a --> {b".toList).isOk = true := by decide +kernel

end Narsese.Props.C12
