/-
  C09 / C03 / C10 (master theorem) — whitespace between tokens never changes what is parsed; both pipelines
  agree on every spelling; the derived copulas mean what the documentation says, end to end.

  PROVED (all sizes, all spacings): a *surface value* (`SValue`) is the token structure of a Narsese term /
  sentence / task together with (i) the number of spaces at EVERY token boundary — after every opener, before
  every closer, around every separator, connecter and copula, between the items of a sentence line, inside
  the stamp and between the numbers of truth and budget, before the first and after the last token — and
  (ii) the copula / connecter actually written, so the four derived copulas are included. `svalTxt` is its
  string, `denVal` what it denotes, `eraseV` its lexical value. For every pair of formats satisfying the
  decidable side conditions (decided below for the three shipped pairs on the regenerated tables) and every
  well-formed surface value:

      enum_parse (svalTxt sv) = Ok (denVal sv)                                (`eparse_svalTxt`)
      lexical_parse (svalTxt sv) = Ok (eraseV sv),  fold (eraseV sv) = Ok (denVal sv)
      ⇒ both pipelines agree on every spelling                                (`pipelines_agree_surface`, C03)
      ⇒ two spellings of one token sequence parse alike, zero spaces included  (`ws_insensitive`, C09)
      ⇒ any spelling of the token sequence of an enum value `v` parses to `v`  (`respaced`)
      ⇒ `<S {-- P>`, `<S --] P>`, `<S {-] P>`, `<S <\> P>` parse to the documented terms (`derived_*`, C10)
-/
import Proofs.Pipelines.MacroPath
import Proofs.Pipelines.Spell
import Props.C03b
import Props.C09
import Props.C10
import Props.C11
set_option autoImplicit false

namespace Narsese.Props.C09
open Narsese EFormat

theorem surface_ascii : SurfaceItemsOK Gen.asciiE :=
  ⟨⟨C01.formatOK_ascii, by decide +kernel⟩, C01.itemsOK_ascii, by decide +kernel⟩
theorem surface_latex : SurfaceItemsOK Gen.latexE :=
  ⟨⟨C01.formatOK_latex, by decide +kernel⟩, C01.itemsOK_latex, by decide +kernel⟩
theorem surface_han : SurfaceItemsOK Gen.hanE :=
  ⟨⟨C01.formatOK_han, by decide +kernel⟩, C01.itemsOK_han, by decide +kernel⟩
theorem lexSide_ascii : LexSide Gen.asciiE Gen.asciiL := lexSide_of_bool (by decide +kernel)
theorem lexSide_latex : LexSide Gen.latexE Gen.latexL := lexSide_of_bool (by decide +kernel)
theorem lexSide_han : LexSide Gen.hanE Gen.hanL := lexSide_of_bool (by decide +kernel)

/-- **the enum entry point on any spelling returns the denotation** -/
theorem enum_parse_spelling (F : EFormat) (hV : SurfaceItemsOK F) (sv : SValue) (hwf : wfV F sv = true)
    (htop : topVB F sv = true) (v : Narsese) (hden : denVal F sv = some v) : F.eparse (svalTxt F sv) = .ok v :=
  eparse_svalTxt hV sv hwf (topV_of_B hV.items sv hwf htop) v hden

/-- **C03, every spelling** -/
theorem pipelines_agree (F : EFormat) (L : LFormat) (hV : SurfaceItemsOK F) (hO : FoldOK F) (hX : LexSide F L)
    (hLI : LItemsOK L) (sv : SValue) (v : Narsese) (h : spellOK F L sv v = true) :
    F.eparse (svalTxt F sv) = .ok v ∧ (L.lparse (svalTxt F sv)).bind F.foldNarsese = .ok v := by
  simp only [spellOK, Bool.and_eq_true, beq_iff_eq] at h
  obtain ⟨⟨⟨⟨h1, h2⟩, h3⟩, h4⟩, h5⟩ := h
  exact pipelines_agree_surface hV hO hX hLI sv h1 h2 h3 v h5 (wfLN_of_bool h4)

/-- **C09**: spellings of one token sequence parse alike in both pipelines -/
theorem ws_insensitive (F : EFormat) (L : LFormat) (hV : SurfaceItemsOK F) (hO : FoldOK F) (hX : LexSide F L)
    (hLI : LItemsOK L) (sv sw : SValue) (v w : Narsese) (hsame : eraseV F sv = eraseV F sw)
    (h : spellOK F L sv v = true) (h' : spellOK F L sw w = true) :
    F.eparse (svalTxt F sv) = F.eparse (svalTxt F sw) ∧
    (L.lparse (svalTxt F sv)).bind F.foldNarsese = (L.lparse (svalTxt F sw)).bind F.foldNarsese := by
  simp only [spellOK, Bool.and_eq_true, beq_iff_eq] at h h'
  obtain ⟨⟨⟨⟨h1, h2⟩, h3⟩, h4⟩, h5⟩ := h
  obtain ⟨⟨⟨⟨g1, g2⟩, g3⟩, _⟩, g5⟩ := h'
  have := spacing_irrelevant hV hO hX hLI sv sw hsame h1 g1 h2 g2 h3 g3 (by simp [h5]) (by simp [g5]) (wfLN_of_bool h4)
  exact ⟨this.1, this.2.1⟩

/-- any spelling of the token sequence of an enum value parses to that value -/
theorem respaced (F : EFormat) (L : LFormat) (hV : SurfaceItemsOK F) (hO : FoldOK F) (hX : LexSide F L)
    (hLI : LItemsOK L) (v : Narsese) (hv : wfN F v = true) (sv : SValue) (hsame : eraseV F sv = toLexN F v)
    (w : Narsese) (h : spellOK F L sv w = true) :
    F.eparse (svalTxt F sv) = .ok v ∧ (L.lparse (svalTxt F sv)).bind F.foldNarsese = .ok v := by
  simp only [spellOK, Bool.and_eq_true, beq_iff_eq] at h
  obtain ⟨⟨⟨⟨h1, h2⟩, h3⟩, h4⟩, h5⟩ := h
  exact respaced_value hV hO hX hLI v hv sv hsame h1 h2 h3 (by simp [h5]) (wfLN_of_bool h4)

/-- the three shipped pairs -/
theorem pipelines_agree_shipped (sv : SValue) (v : Narsese) :
    (spellOK Gen.asciiE Gen.asciiL sv v = true →
      Gen.asciiE.eparse (svalTxt Gen.asciiE sv) = .ok v ∧
      (Gen.asciiL.lparse (svalTxt Gen.asciiE sv)).bind Gen.asciiE.foldNarsese = .ok v) ∧
    (spellOK Gen.latexE Gen.latexL sv v = true →
      Gen.latexE.eparse (svalTxt Gen.latexE sv) = .ok v ∧
      (Gen.latexL.lparse (svalTxt Gen.latexE sv)).bind Gen.latexE.foldNarsese = .ok v) ∧
    (spellOK Gen.hanE Gen.hanL sv v = true →
      Gen.hanE.eparse (svalTxt Gen.hanE sv) = .ok v ∧
      (Gen.hanL.lparse (svalTxt Gen.hanE sv)).bind Gen.hanE.foldNarsese = .ok v) :=
  ⟨pipelines_agree _ _ surface_ascii C03.foldOK_ascii lexSide_ascii C02.litemsOK_ascii sv v,
   pipelines_agree _ _ surface_latex C03.foldOK_latex lexSide_latex C02.litemsOK_latex sv v,
   pipelines_agree _ _ surface_han C03.foldOK_han lexSide_han C02.litemsOK_han sv v⟩

/-- **the inline-macro path** (`enum_nse!` strips every whitespace character of the literal, then calls `parse_chars`):
deleting all whitespace — the lexical format's table, which is `char::is_whitespace` (see `C09.lean`) — from ANY
spelling and parsing the rest gives the value -/
theorem macro_path_parse (F : EFormat) (L : LFormat) (hV : SurfaceItemsOK F) (hX : LexSide F L) (sv : SValue) (v : Narsese)
    (h : spellOK F L sv v = true) (h0 : topVB F (zeroV sv) = true) :
    F.eparse (L.idealize (svalTxt F sv)) = .ok v := by
  simp only [spellOK, Bool.and_eq_true, beq_iff_eq] at h
  obtain ⟨⟨⟨⟨h1, _⟩, h3⟩, _⟩, h5⟩ := h
  exact macro_path hV hX sv h1 h3 h0 v h5

/-! ### C10 end to end: the derived copulas -/

/-- a statement spelled with entry `j` of the copula table, any spacing, denotes `build_j(S, P)` -/
theorem derived_statement (F : EFormat) (hS : SurfaceOK F) (a b c d j : Nat) (s p : STerm) (s' p' : Term)
    (hj : j < F.copulaTable.length) (hws : wfS F s = true) (hwp : wfS F p = true)
    (hs : den F s = some s') (hp : den F p = some p') (rest : Str) (hst : Stop F rest) (len fuel : Nat)
    (hfuel : 3 * (stxt F (.stmt a s b j c p d) ++ rest).length + 2 ≤ fuel) :
    F.parseTerm fuel (mk len (stxt F (.stmt a s b j c p d) ++ rest)) = .ok ((F.copAt j).2.build s' p', mk len rest) :=
  parseTerm_stxt hS len _ (by simp [wfS, hj, hws, hwp]) _ (by simp [den, hs, hp]) rest hst fuel hfuel

/-- entries 4, 5, 6 and 12 of `copulaTable` (counted from 0) are the derived copulas — instance, property,
instance-property, retrospective equivalence — with the documented meaning -/
theorem derived_meaning (F : EFormat) (S P : Term) :
    (F.copAt 4).2.build S P = C10.denoteInstance S P ∧ (F.copAt 5).2.build S P = C10.denoteProperty S P ∧
    (F.copAt 6).2.build S P = C10.denoteInstanceProperty S P ∧ (F.copAt 12).2.build S P = C10.denoteEquivRetro S P := by
  simp [copAt, copulaTable, C10.denoteInstance, C10.denoteProperty, C10.denoteInstanceProperty,
    C10.denoteEquivRetro, CopK.build]

/-! ### non-vacuity: spaced and sugared spellings of the C01 sample satisfy every hypothesis -/

def σ1 (i : Nat) : Nat := (i * 7 + 3) % 3

example : spellOK Gen.asciiE Gen.asciiL (spell Gen.asciiE σ1 true C01.sampleTask) C01.sampleTask = true ∧
    spellOK Gen.latexE Gen.latexL (spell Gen.latexE σ1 true C01.sampleTask) C01.sampleTask = true ∧
    spellOK Gen.hanE Gen.hanL (spell Gen.hanE σ1 true C01.sampleTask) C01.sampleTask = true ∧
    spellOK Gen.asciiE Gen.asciiL (spell Gen.asciiE (fun _ => 0) true C01.sampleTask) C01.sampleTask = true := by
  decide +kernel

/-- tie of the model's copula look-ahead list (`EFormat.copulas`, written out in the model) to what the crate's
`NarseseFormat::copulas()` yields, regenerated on every run: the theorems of this file talk about the model's list -/
theorem copulas_lookahead_tie :
    Gen.asciiE.copulas = Gen.asciiCopulasOrder ∧ Gen.latexE.copulas = Gen.latexCopulasOrder ∧
    Gen.hanE.copulas = Gen.hanCopulasOrder := C11.copulas_order

end Narsese.Props.C09
