/-
  C02 — lexical Narsese survives format-then-parse in every shipped format.

  Here, the dictionary facts: the dictionary-ordered matching of the lexical parser picks the intended entry
  for every keyword of every dictionary of the three shipped formats, from the front (prefix dictionaries)
  and from the back (suffix dictionaries), in the REAL iteration order dumped from the crate.
  The round trip itself (`lex_roundtrip`, all vocabulary-drawn values) is in `C02b.lean`.
-/
import NarseseModel.Lex
import NarseseModel.Gen.Formats
set_option autoImplicit false

namespace Narsese.Props.C02
open Narsese LFormat

def prefixSelf (dict : List Str) : Bool := dict.all (fun k => matchPrefix dict k == some k)
def suffixSelf (dict : List Str) : Bool := dict.all (fun k => matchSuffix dict k == some k)

/-- longest-keyword-first: e.g. `&&` before `&`, `{-]` before `{--`, `具有` before `有` -/
theorem prefix_dicts_selfmatch : ∀ L ∈ [Gen.asciiL, Gen.latexL, Gen.hanL],
    prefixSelf L.atomPrefixes = true ∧ prefixSelf L.connecters = true ∧ prefixSelf L.copulas = true ∧
    prefixSelf (L.setBrackets.map (·.1)) = true := by decide +kernel

theorem suffix_dicts_selfmatch : ∀ L ∈ [Gen.asciiL, Gen.latexL, Gen.hanL],
    suffixSelf L.punctuations = true ∧
    L.stampBrackets.all (fun p => matchSuffixPair L.stampBrackets (p.1 ++ ['0'] ++ p.2) == some p) = true := by
  decide +kernel

/-- brackets of the three term classes are distinguishable at the first position -/
theorem term_openers_incompatible : ∀ L ∈ [Gen.asciiL, Gen.latexL, Gen.hanL],
    incompat L.compL L.stmtL = true ∧ L.setBrackets.all (fun p => incompat p.1 L.compL && incompat p.1 L.stmtL) = true := by
  decide +kernel

/-- the budget closer can not be swallowed by a suffix item: no punctuation, truth or stamp keyword ends
where the budget bracket does, and the budget brackets are not content characters -/
theorem budget_bracket_not_content : ∀ L ∈ [Gen.asciiL, Gen.latexL, Gen.hanL],
    (L.budgetR.all (fun c => !inRanges L.isTruthTbl c && !inRanges L.isStampTbl c)) = true ∧
    L.punctuations.all (fun p => !isSuf p L.budgetR) = true := by
  decide +kernel

/-- splitting the text between brackets at the separator recovers the entries (numeric strings) -/
example : splitItems "%".toList "%".toList ";".toList "%1;0.9%".toList = ["1".toList, "0.9".toList] := by decide
example : splitItems "真".toList "值".toList "、".toList "真1、0.9值".toList = ["1".toList, "0.9".toList] := by decide

end Narsese.Props.C02
