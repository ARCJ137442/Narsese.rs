/-
  C15 — term / sentence / task classification and conversions are lossless.
-/
import Proofs.EItems
import NarseseModel.Lex
set_option autoImplicit false

namespace Narsese.Props.C15
open Narsese EFormat LFormat

/-! ### classification: identical in both parsers, a function of which items were recognised -/

/-- result kind from the filled slots: task iff budget ∧ term ∧ punctuation, sentence iff term ∧
punctuation without budget, term otherwise (2 / 1 / 0); `none` when the term is missing -/
def kindOfSlots (budget term punct : Bool) : Option Nat :=
  if !term then none else if punct then (if budget then some 2 else some 1) else some 0

/-- the enum parser: the kind `transform_mid_result` gives is `kindOfSlots` of the filled slots (the first disjunct
always holds: `transformMid` never panics, `transformMid_eq`) -/
theorem enum_transform_kind (c : Cur) (m : Mid) :
    (match transformMid c m with
     | .ok (v, _) => some v.kind
     | _ => none) = kindOfSlots m.budget.isSome m.term.isSome m.punct.isSome
      ∨ (m.term.isNone ∧ transformMid c m = .panic) := by
  left
  rw [transformMid_eq]
  unfold kindOfSlots Mid.form
  cases m.term <;> cases m.punct <;> cases m.budget <;> rfl

theorem lexical_fold_kind (m : LMid) :
    (m.fold.map NValue.kind) = kindOfSlots m.budget.isSome m.term.isSome m.punct.isSome := by
  unfold LMid.fold kindOfSlots
  cases m.term <;> cases m.punct <;> cases m.budget <;> simp [NValue.kind]

/-- an empty budget is still a budget: the slot is filled, so the result is a task -/
theorem empty_budget_is_task (c : Cur) (t : Term) (p : Punct) :
    ∃ k m', transformMid c { budget := some .empty, term := some t, punct := some p } = .ok (.task k, m') ∧
      k.budget = .empty := by
  simp [transformMid]

theorem cast_roundtrip (s : Sentence) : (Sentence.castToTask s).tryCastToSentence = .inl s := by
  simp [Sentence.castToTask, Task.tryCastToSentence, Budget.isEmpty]

theorem tryCast_task (k : Task) :
    (k.budget.isEmpty = true → k.tryCastToSentence = .inl k.sentence) ∧
    (k.budget.isEmpty = false → k.tryCastToSentence = .inr k) := by
  unfold Task.tryCastToSentence
  cases k.budget.isEmpty <;> simp

theorem lex_cast_roundtrip (s : LSentence) : (LSentence.castToTask s).tryCastToSentence = .inl s := by
  simp [LSentence.castToTask, LTask.tryCastToSentence]

theorem lex_tryCast_task (k : LTask) :
    (k.budget.isEmpty = true → k.tryCastToSentence = .inl k.sentence) ∧
    (k.budget.isEmpty = false → k.tryCastToSentence = .inr k) := by
  unfold LTask.tryCastToSentence
  cases k.budget.isEmpty <;> simp

/-! ### `NarseseValue` wrapping / unwrapping (generic in the three carried types, as in Rust) -/

variable {T S K : Type}

theorem tryInto_matching (t : T) (s : S) (k : K) :
    (NValue.term t : NValue T S K).tryIntoTerm = .ok t ∧
    (NValue.sentence s : NValue T S K).tryIntoSentence = .ok s ∧
    (NValue.task k : NValue T S K).tryIntoTask = .ok k := ⟨rfl, rfl, rfl⟩

theorem tryInto_nonmatching (t : T) (s : S) (k : K) :
    (NValue.term t : NValue T S K).tryIntoSentence = .err ∧ (NValue.term t : NValue T S K).tryIntoTask = .err ∧
    (NValue.sentence s : NValue T S K).tryIntoTerm = .err ∧ (NValue.sentence s : NValue T S K).tryIntoTask = .err ∧
    (NValue.task k : NValue T S K).tryIntoTerm = .err ∧ (NValue.task k : NValue T S K).tryIntoSentence = .err :=
  ⟨rfl, rfl, rfl, rfl, rfl, rfl⟩

/-- `try_into_X(v)` is `Ok` exactly for the matching variant, and then returns what was wrapped -/
theorem tryInto_iff (v : NValue T S K) :
    (v.tryIntoTerm.isOk = v.isTerm) ∧ (v.tryIntoSentence.isOk = v.isSentence) ∧ (v.tryIntoTask.isOk = v.isTask) ∧
    (v.isTerm.toNat + v.isSentence.toNat + v.isTask.toNat = 1) := by
  cases v <;> simp [NValue.tryIntoTerm, NValue.tryIntoSentence, NValue.tryIntoTask, NValue.isTerm,
    NValue.isSentence, NValue.isTask, Res.isOk]

theorem taskCompatible (cast : S → K) (t : T) (s : S) (k : K) :
    (NValue.sentence s : NValue T S K).tryIntoTaskCompatible cast = .ok (cast s) ∧
    (NValue.task k : NValue T S K).tryIntoTaskCompatible cast = .ok k ∧
    (NValue.term t : NValue T S K).tryIntoTaskCompatible cast = .err := ⟨rfl, rfl, rfl⟩

theorem value_tryCast (tc : K → Sum S K) (v : NValue T S K) :
    match v with
    | .term t => v.tryCastToSentence tc = .inr (.term t)
    | .sentence s => v.tryCastToSentence tc = .inl (.sentence s)
    | .task k => (∀ s, tc k = .inl s → v.tryCastToSentence tc = .inl (.sentence s)) ∧
                 (∀ k', tc k = .inr k' → v.tryCastToSentence tc = .inr (.task k')) := by
  cases v with
  | term t => rfl
  | sentence s => rfl
  | task k =>
    constructor
    · intro s h; simp [NValue.tryCastToSentence, h]
    · intro k' h; simp [NValue.tryCastToSentence, h]

end Narsese.Props.C15
