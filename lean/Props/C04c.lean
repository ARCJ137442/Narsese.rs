/-
  C04, the fifth side door: the slot door `parse::<NarseseOptions<…>>` is a public enum parsing entry point as well; it
  is total like the others (proved in `Props/C15c.lean`, where the door is modelled, and restated here under C04).
-/
import Props.C15c
set_option autoImplicit false

namespace Narsese.Props.C04
open Narsese EFormat

theorem slot_door_total (F : EFormat) (hs : SaneAll F) (input : Str) : (F.parseMidDoor input).total = true :=
  C15.mid_door_total F hs input

end Narsese.Props.C04
