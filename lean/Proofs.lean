import Proofs.FoldLemmas
import Proofs.SemLemmas
import Proofs.EqHash
import Proofs.SetBuild
import Proofs.NumLemmas
import Proofs.EParseTotal
import Proofs.EParseWF
import Proofs.Spelling.Canon
import Proofs.Spelling.Formatted
import Proofs.LexTotal
import Proofs.LexItemsTotal
import Proofs.LRT.Bool
import Proofs.Pipelines.Fold
import Proofs.Pipelines.MacroPath
import Proofs.Typst.ValueInj
import Proofs.Peg.Sound
import Proofs.Peg.Read
import Proofs.Peg.Vocab
import Proofs.Peg.Enum
import Proofs.Peg.Det
import Proofs.Peg.Vocab2
import Proofs.Peg.K3
