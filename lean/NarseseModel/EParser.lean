/-
  Enum Narsese parser (model of `impl_enum/parser.rs`).

  The Rust parser is a cursor (`env: Vec<char>`, `head`) whose head may legally run PAST the end of
  the input after an unchecked `head_skip(right_bracket)`. The model keeps the unread suffix `rest`,
  the overrun `over` (= head - len when head > len) and `len`, so `head = len - |rest| + over`.

  Every Rust operation that can panic is modelled with its guard and yields `panic` when the guard
  fails; loops and recursion take fuel.
-/
import NarseseModel.EFormat
import NarseseModel.Value
set_option autoImplicit false

namespace Narsese

structure Cur where
  rest : Str
  over : Nat
  len : Nat
  deriving Repr, Inhabited, DecidableEq

/-- parser outcome; an error remembers the cursor at which it was raised (the Rust parser leaves
`head` there: later alternatives of `first_method_ok!` evaluate their guards at that position, and
a later error message slices its context window around it). -/
inductive PRes (α : Type) where
  | ok (a : α)
  | err (at_ : Cur)
  | panic
  | fuel
  deriving Repr, Inhabited

namespace PRes
variable {α β : Type}
@[inline] def bind (x : PRes α) (f : α → PRes β) : PRes β :=
  match x with
  | .ok a => f a
  | .err h => .err h
  | .panic => .panic
  | .fuel => .fuel
instance : Monad PRes where
  pure := .ok
  bind := PRes.bind
def toRes : PRes α → Res α
  | .ok a => .ok a
  | .err _ => .err
  | .panic => .panic
  | .fuel => .fuel
end PRes

namespace Cur

def ofEnv (env : Str) : Cur := { rest := env, over := 0, len := env.length }

def head (c : Cur) : Nat := c.len - c.rest.length + c.over

/-- `can_consume`: `head < len_env` -/
def canConsume (c : Cur) : Bool := !c.rest.isEmpty

/-- `starts_with`: false whenever `len_env < head + |k|`; in particular false for `k = ""` once the
head has overrun the input. -/
def startsWith (c : Cur) (k : Str) : Bool := c.over == 0 && isPre k c.rest

/-- `head_step(n)`: unchecked -/
def skipN (c : Cur) (n : Nat) : Cur :=
  if n ≤ c.rest.length then { c with rest := c.rest.drop n }
  else { c with rest := [], over := c.over + (n - c.rest.length) }

/-- `head_skip(s)` -/
def skip (c : Cur) (k : Str) : Cur := c.skipN k.length

end Cur

/-- `ParseError::generate_env_slice` (after the D3 repair): the slice `env[left..right]` must satisfy
`left ≤ right ≤ len`, otherwise Rust panics. -/
def windowOk (len head : Nat) : Bool :=
  let left := if head > 4 then min (head - 4) len else 0
  let right := if head + 4 + 1 < len then head + 4 + 1 else len
  left ≤ right && right ≤ len

/-- `self.err(..)` / `self.parse_error(..)`: builds the error (which slices the window) -/
def raise {α : Type} (c : Cur) : PRes α := if windowOk c.len c.head then .err c else .panic


structure Mid where
  budget : Option Budget := none
  term : Option Term := none
  punct : Option Punct := none
  stamp : Option Stamp := none
  truth : Option Truth := none
  deriving Repr, Inhabited, DecidableEq

namespace EFormat

/-- `head_skip_spaces`: `while starts_with(space) { head_skip(space) }`.
(With an empty `space.parse` Rust would loop forever; the model stops when its fuel `|rest|` is used
up. All statements about the parser assume `spaceParse ≠ []`.) -/
def skipSpAux (sp : Str) : Nat → Str → Str
  | 0, s => s
  | n + 1, s =>
    match strip sp s with
    | some r => skipSpAux sp n r
    | none => s

def skipSpaces (F : EFormat) (c : Cur) : Cur :=
  if c.over == 0 then { c with rest := skipSpAux F.spaceParse c.rest.length c.rest } else c

/-- `head_skip_and_spaces` -/
def skipAndSpaces (F : EFormat) (c : Cur) (k : Str) : Cur := F.skipSpaces (c.skip k)
/-- `head_skip_after_spaces` -/
def skipAfterSpaces (F : EFormat) (c : Cur) (k : Str) : Cur := (F.skipSpaces c).skip k

/-- `is_copula_starts_at_head` (after the D5 repair: the whole copula must be present) -/
def copulaAt (F : EFormat) (s : Str) : Bool := F.copulas.any (fun k => isPre k s)

/-- name scanning loop of `parse_atom` -/
def scanName (F : EFormat) : Str → Str × Str
  | [] => ([], [])
  | c :: cs =>
    if F.copulaAt (c :: cs) then ([], c :: cs)
    else if F.isName c then
      let r := scanName F cs
      (c :: r.1, r.2)
    else ([], c :: cs)

/-- atom prefixes in the order `parse_atom` tries them -/
def atomPrefixes (F : EFormat) : List (Str × Option AtomK × Bool) :=
  -- (keyword, named kind | none, isInterval)
  [ (F.prePlaceholder, none, false),
    (F.preIVar, some .ivar, false),
    (F.preDVar, some .dvar, false),
    (F.preQVar, some .qvar, false),
    (F.preInterval, none, true),
    (F.preOperator, some .op, false),
    (F.preWord, some .word, false) ]

inductive AtomHead where
  | placeholder | interval | named (k : AtomK)
  deriving Repr, DecidableEq

def atomHeads (F : EFormat) : List (Str × AtomHead) :=
  [ (F.prePlaceholder, .placeholder),
    (F.preIVar, .named .ivar),
    (F.preDVar, .named .dvar),
    (F.preQVar, .named .qvar),
    (F.preInterval, .interval),
    (F.preOperator, .named .op),
    (F.preWord, .named .word) ]

/-- `parse_atom` -/
def parseAtom (F : EFormat) (c : Cur) : PRes (Term × Cur) :=
  match (F.atomHeads.find? (fun p => c.startsWith p.1)) with
  | none => raise c
  | some (pre, hd) =>
    let c1 := c.skip pre
    let (name, rest') := F.scanName c1.rest
    let c2 : Cur := { c1 with rest := rest' }
    match hd with
    | .placeholder => .ok (.placeholder, c2)
    | .interval =>
      if name.isEmpty then raise c2
      else match parseUsize name with
        | some n => .ok (.interval n, c2)
        | none => raise c2
    | .named k =>
      if name.isEmpty then raise c2 else .ok (.atom k name, c2)

/-- what a compound connecter builds -/
inductive ConnK where
  | operatorUnsupported
  | set (k : SetK)
  | seq (k : SeqK)
  | img (k : ImgK)
  | neg
  | diff (k : BinK)
  deriving Repr, DecidableEq

/-- connecters in the order `parse_compound` tries them -/
def connecters (F : EFormat) : List (Str × ConnK) :=
  [ (F.preOperator, .operatorUnsupported),
    (F.cConj, .set .conj),
    (F.cDisj, .set .disj),
    (F.cNeg, .neg),
    (F.cSeqConj, .seq .seqConj),
    (F.cParConj, .set .parConj),
    (F.cExtInt, .set .extInt),
    (F.cIntInt, .set .intInt),
    (F.cExtDiff, .diff .extDiff),
    (F.cIntDiff, .diff .intDiff),
    (F.cProduct, .seq .product),
    (F.cExtImg, .img .ext),
    (F.cIntImg, .img .int) ]

/-- what a copula builds -/
inductive CopK where
  | plain (k : BinK)
  | instance_ | property | instProp | equivRetro
  deriving Repr, DecidableEq

/-- copulas in the order `parse_statement` tries them -/
def copulaTable (F : EFormat) : List (Str × CopK) :=
  [ (F.copInh, .plain .inh),
    (F.copSim, .plain .sim),
    (F.copImpl, .plain .impl),
    (F.copEquiv, .plain .equiv),
    (F.copInstance, .instance_),
    (F.copProperty, .property),
    (F.copInstProp, .instProp),
    (F.copImplPred, .plain .implPred),
    (F.copImplConc, .plain .implConc),
    (F.copImplRetro, .plain .implRetro),
    (F.copEquivPred, .plain .equivPred),
    (F.copEquivConc, .plain .equivConc),
    (F.copEquivRetro, .equivRetro) ]

end EFormat

/-- de-duplication as a `HashSet` built by sequential insertion performs it
(by semantic equality; equal to the hash-based lookup of the code by `Proofs/SetBuild.lean`) -/
def dedupSem : List Term → List Term → List Term
  | acc, [] => acc
  | acc, x :: xs => if acc.any (fun y => sem y x) then dedupSem acc xs else dedupSem (acc ++ [x]) xs

def mkSetSem (xs : List Term) : List Term := dedupSem [] xs

/-- derived constructors (`Term::new_instance` etc.) -/
def EFormat.CopK.build : EFormat.CopK → Term → Term → Term
  | .plain k, s, p => .bin k s p
  | .instance_, s, p => .bin .inh (.setlike .extSet (.cons s .nil)) p
  | .property, s, p => .bin .inh s (.setlike .intSet (.cons p .nil))
  | .instProp, s, p => .bin .inh (.setlike .extSet (.cons s .nil)) (.setlike .intSet (.cons p .nil))
  | .equivRetro, s, p => .bin .equivPred p s

/-- `terms.iter().position(|t| *t == Placeholder)` then `remove` -/
def extractPlaceholder : List Term → Option (Nat × List Term)
  | [] => none
  | t :: ts =>
    if t = .placeholder then some (0, ts)
    else (extractPlaceholder ts).map (fun p => (p.1 + 1, t :: p.2))

namespace EFormat

/-- the kind-specific tail of `parse_compound`: fill the components into the pre-built term (arity
checks for negation and the differences, placeholder extraction for images), then skip the closer -/
def finishCompound (F : EFormat) (ck : ConnK) (ts : List Term) (c3 : Cur) : PRes (Term × Cur) :=
  let fin (t : Term) : PRes (Term × Cur) := .ok (t, F.skipAfterSpaces c3 F.compR)
  match ck with
  | .neg =>
    match ts with
    | [t] => fin (.neg t)
    | _ => raise c3
  | .diff k =>
    match ts with
    | [a, b] => fin (.bin k a b)
    | _ => raise c3
  | .img k =>
    match extractPlaceholder ts with
    | some (i, ts') => fin (.image k i (Terms.ofList ts'))
    | none => raise c3
  | .seq k => fin (.seqlike k (Terms.ofList ts))
  | .set k => fin (.setlike k (Terms.ofList (mkSetSem ts)))
  | .operatorUnsupported => raise c3

mutual
  /-- `parse_term` -/
  def parseTerm (F : EFormat) : Nat → Cur → PRes (Term × Cur)
    | 0, _ => .fuel
    | fuel + 1, c =>
      if c.startsWith F.extSetL then
        parseTermSet F fuel .extSet F.extSetL F.extSetR c
      else if c.startsWith F.intSetL then
        parseTermSet F fuel .intSet F.intSetL F.intSetR c
      else if c.startsWith F.compL then
        parseCompound F fuel c
      else if c.startsWith F.stmtL then
        parseStatement F fuel c
      else F.parseAtom c

  /-- `parse_compound_terms`: loop until the right bracket or the end of input -/
  def parseTerms (F : EFormat) : Nat → Str → Cur → List Term → PRes (List Term × Cur)
    | 0, _, _, _ => .fuel
    | fuel + 1, rb, c, acc =>
      if !c.canConsume then .ok (acc, c)
      else if c.startsWith F.spaceParse then parseTerms F fuel rb (c.skip F.spaceParse) acc
      else if c.startsWith F.separator then parseTerms F fuel rb (c.skip F.separator) acc
      else if c.startsWith rb then .ok (acc, c)
      else
        match parseTerm F fuel c with
        | .ok (t, c') => parseTerms F fuel rb c' (acc ++ [t])
        | .err h => .err h
        | .panic => .panic
        | .fuel => .fuel

  /-- `parse_term_set` + `parse_compound_set_*` -/
  def parseTermSet (F : EFormat) : Nat → SetK → Str → Str → Cur → PRes (Term × Cur)
    | 0, _, _, _, _ => .fuel
    | fuel + 1, k, lb, rb, c =>
      match parseTerms F fuel rb (F.skipAndSpaces c lb) [] with
      | .ok (ts, c') =>
        let c'' := F.skipAfterSpaces c' rb
        if ts.isEmpty then raise c''
        else .ok (.setlike k (Terms.ofList (mkSetSem ts)), c'')
      | .err h => .err h
      | .panic => .panic
      | .fuel => .fuel

  /-- `parse_compound` -/
  def parseCompound (F : EFormat) : Nat → Cur → PRes (Term × Cur)
    | 0, _ => .fuel
    | fuel + 1, c =>
      let c1 := F.skipAndSpaces c F.compL
      match F.connecters.find? (fun p => c1.startsWith p.1) with
      | none => raise c1
      | some (kw, ck) =>
        let c2 := c1.skip kw
        if ck = .operatorUnsupported then raise c2
        else
          match parseTerms F fuel F.compR c2 [] with
          | .ok (ts, c3) =>
            if ts.isEmpty then raise c3 else finishCompound F ck ts c3
          | .err h => .err h
          | .panic => .panic
          | .fuel => .fuel

  /-- `parse_statement` -/
  def parseStatement (F : EFormat) : Nat → Cur → PRes (Term × Cur)
    | 0, _ => .fuel
    | fuel + 1, c =>
      match parseTerm F fuel (F.skipAndSpaces c F.stmtL) with
      | .ok (subj, c1) =>
        let c2 := F.skipSpaces c1
        match F.copulaTable.find? (fun p => c2.startsWith p.1) with
        | none => raise c2
        | some (kw, ck) =>
          match parseTerm F fuel (F.skipSpaces (c2.skip kw)) with
          | .ok (pred, c3) => .ok (ck.build subj pred, F.skipAfterSpaces c3 F.stmtR)
          | .err h => .err h
          | .panic => .panic
          | .fuel => .fuel
      | .err h => .err h
      | .panic => .panic
      | .fuel => .fuel
end

/-- one step of `parse_separated_floats`' loop state -/
structure FloatSt where
  cur : Cur
  buf : Str        -- `value_buffer`
  acc : List Num   -- `result[0..i]`
  deriving Repr

/-- `parse_separated_floats::<N>`; returns the parsed numbers (`i` of them; the remaining array slots
stay `0.0`, which is in range) and the cursor. -/
def parseFloats (F : EFormat) (N : Nat) (sep rb : Str) : Nat → Cur → Str → List Num → PRes (List Num × Cur)
  | 0, _, _, _ => .fuel
  | fuel + 1, c, buf, acc =>
    if !(c.canConsume && acc.length < N) then .ok (acc, c)
    else
      match c.rest with
      | [] => .ok (acc, c)
      | ch :: _ =>
        if c.startsWith F.spaceParse then parseFloats F N sep rb fuel (c.skip F.spaceParse) buf acc
        else if ch = '.' || isDigit ch then parseFloats F N sep rb fuel (c.skipN 1) (buf ++ [ch]) acc
        else if c.startsWith sep then
          match readNum buf with
          | some v => parseFloats F N sep rb fuel (c.skip sep) [] (acc ++ [v])
          | none => raise c
        else if c.startsWith rb then
          match readNum buf with
          | some v => .ok (acc ++ [v], c)
          | none => .ok (acc, c)
        else raise c

/-- `parse_isize`: greedy over `[0-9+-]` -/
def spanSigned : Str → Str × Str
  | [] => ([], [])
  | c :: cs =>
    if isDigit c || c = '+' || c = '-' then let p := spanSigned cs; (c :: p.1, p.2) else ([], c :: cs)

def parseIsizeAt (c : Cur) : PRes (Int × Cur) :=
  let (buf, rest') := spanSigned c.rest
  let c' : Cur := { c with rest := rest' }
  if buf.isEmpty then raise c'
  else match parseIsize buf with
    | some v => .ok (v, c')
    | none => raise c'

/-- `consume_stamp` -/
def consumeStamp (F : EFormat) (c : Cur) : PRes (Stamp × Cur) :=
  let c1 := F.skipAndSpaces c F.stampL
  let fin (s : Stamp) (c : Cur) : PRes (Stamp × Cur) := .ok (s, F.skipAfterSpaces c F.stampR)
  if c1.startsWith F.stampFixed then
    match parseIsizeAt (F.skipAndSpaces c1 F.stampFixed) with
    | .ok (t, c2) => fin (.fixed t) c2
    | .err h => .err h
    | .panic => .panic
    | .fuel => .fuel
  else if c1.startsWith F.stampPast then fin .past (c1.skip F.stampPast)
  else if c1.startsWith F.stampPresent then fin .present (c1.skip F.stampPresent)
  else if c1.startsWith F.stampFuture then fin .future (c1.skip F.stampFuture)
  else raise c1

/-- panicking constructors after the explicit range check (`Truth::new_single` etc. call `validate_01`) -/
def liftRes {α : Type} (c : Cur) : Res α → PRes α
  | .ok a => .ok a
  | .err => raise c
  | .panic => .panic
  | .fuel => .fuel

/-- `consume_truth` -/
def consumeTruth (F : EFormat) (c : Cur) : PRes (Truth × Cur) :=
  let c1 := F.skipAndSpaces c F.truthL
  match parseFloats F 2 F.truthSep F.truthR (c1.rest.length + 1) c1 [] [] with
  | .ok (xs, c2) =>
    if !(xs.all Num.in01) then raise c2
    else
      let built : Res Truth := match xs with
        | [] => .ok .empty
        | [f] => (GTruth.newSingle Num.in01 f).map Truth.ofG
        | f :: cc :: _ => (GTruth.newDouble Num.in01 f cc).map Truth.ofG
      match liftRes c2 built with
      | .ok t => .ok (t, F.skipAfterSpaces c2 F.truthR)
      | .err h => .err h
      | .panic => .panic
      | .fuel => .fuel
  | .err h => .err h
  | .panic => .panic
  | .fuel => .fuel

/-- `consume_budget` -/
def consumeBudget (F : EFormat) (c : Cur) : PRes (Budget × Cur) :=
  let c1 := F.skipAndSpaces c F.budgetL
  match parseFloats F 3 F.budgetSep F.budgetR (c1.rest.length + 1) c1 [] [] with
  | .ok (xs, c2) =>
    if !(xs.all Num.in01) then raise c2
    else
      let built : Res Budget := match xs with
        | [] => .ok .empty
        | [p] => (GBudget.newSingle Num.in01 p).map Budget.ofG
        | [p, d] => (GBudget.newDouble Num.in01 p d).map Budget.ofG
        | p :: d :: q :: _ => (GBudget.newTriple Num.in01 p d q).map Budget.ofG
      match liftRes c2 built with
      | .ok b => .ok (b, F.skipAfterSpaces c2 F.budgetR)
      | .err h => .err h
      | .panic => .panic
      | .fuel => .fuel
  | .err h => .err h
  | .panic => .panic
  | .fuel => .fuel

/-- `consume_punctuation` -/
def consumePunct (F : EFormat) (c : Cur) : PRes (Punct × Cur) :=
  if c.startsWith F.pJudgement then .ok (.judgement, c.skip F.pJudgement)
  else if c.startsWith F.pGoal then .ok (.goal, c.skip F.pGoal)
  else if c.startsWith F.pQuestion then .ok (.question, c.skip F.pQuestion)
  else if c.startsWith F.pQuest then .ok (.quest, c.skip F.pQuest)
  else raise c

/-- fuel for the term parser on a cursor -/
def termFuel (c : Cur) : Nat := 4 * c.rest.length + 8

/-- One alternative of `first_method_ok!` failed: continue with the cursor it left behind. -/
def orElse {α : Type} (x : PRes α) (k : Cur → PRes α) : PRes α :=
  match x with
  | .ok a => .ok a
  | .err h => k h
  | .panic => .panic
  | .fuel => .fuel

/-- an alternative: its guard is evaluated at the CURRENT head (`now`, wherever the previous failed
alternative left it), then the head is moved back to `c` and the branch runs from there. -/
def alt {α : Type} (guard : Cur → Bool) (run : PRes α) (k : Cur → PRes α) (now : Cur) : PRes α :=
  if guard now then orElse run k else k now

/-- store a consumed item in its slot -/
def liftStep {α : Type} (r : PRes (α × Cur)) (f : α → Mid) : PRes (Cur × Mid) :=
  match r with
  | .ok (a, c') => .ok (c', f a)
  | .err h => .err h
  | .panic => .panic
  | .fuel => .fuel

/-- `consume_one`: ordered alternatives with back-off. -/
def consumeOne (F : EFormat) (c : Cur) (m : Mid) : PRes (Cur × Mid) :=
  if c.startsWith F.spaceParse then .ok (c.skip F.spaceParse, m)
  else
    let rBudget := liftStep (F.consumeBudget c) (fun b => { m with budget := some b })
    let rTerm := liftStep (F.parseTerm (termFuel c) c) (fun t => { m with term := some t })
    let rPunct := liftStep (F.consumePunct c) (fun p => { m with punct := some p })
    let rStamp := liftStep (F.consumeStamp c) (fun s => { m with stamp := some s })
    let rTruth := liftStep (F.consumeTruth c) (fun t => { m with truth := some t })
    alt (fun now => now.startsWith F.budgetL && m.budget.isNone) rBudget
      (alt (fun _ => m.term.isNone) rTerm
        (alt (fun _ => m.punct.isNone) rPunct
          (alt (fun now => now.startsWith F.stampL && m.stamp.isNone) rStamp
            (alt (fun now => now.startsWith F.truthL && m.truth.isNone) rTruth
              (fun now => raise now))))) c

/-- `build_mid_result` -/
def buildMid (F : EFormat) : Nat → Cur → Mid → PRes (Cur × Mid)
  | 0, _, _ => .fuel
  | fuel + 1, c, m =>
    if !c.canConsume then .ok (c, m)
    else
      let c1 := F.skipSpaces c
      if !c1.canConsume then .ok (c1, m)
      else
        match F.consumeOne c1 m with
        | .ok (c2, m2) => buildMid F fuel c2 m2
        | .err h => .err h
        | .panic => .panic
        | .fuel => .fuel

/-- `Option::unwrap` -/
def unwrapOpt {α : Type} : Option α → PRes α
  | some a => .ok a
  | none => .panic

/-- `transform_mid_result` (with `form_term` / `form_sentence` / `form_task`); also returns the
residue left in the state's `mid_result` (the slots are `take`n only on the path that uses them). -/
def transformMid (c : Cur) (m : Mid) : PRes (Narsese × Mid) :=
  match m.term with
  | none => raise c
  | some t =>
    match m.punct with
    | some p =>
      let s := Sentence.fromPunctuation t p (m.stamp.getD .eternal) (m.truth.getD .empty)
      match m.budget with
      | some b => .ok (.task { sentence := s, budget := b }, {})
      | none => .ok (.sentence s, {})
    | none => .ok (.term t, { m with term := none })

/-- the parser state that `parse_multi` re-uses -/
structure PState where
  cur : Cur
  mid : Mid
  deriving Repr, Inhabited

/-- `ParseState::reset_to` (after the D2 repair: the mid result is cleared as well) -/
def resetTo (_s : PState) (input : Str) : PState := { cur := Cur.ofEnv input, mid := {} }

def midFuel (c : Cur) : Nat := c.rest.length + 2

/-- `ParseResult::from_parse((), &mut state)`: run on the state as it is -/
def runState (F : EFormat) (s : PState) : PRes Narsese × PState :=
  match F.buildMid (midFuel s.cur) s.cur s.mid with
  | .ok (c, m) =>
    match transformMid c m with
    | .ok (v, m') => (.ok v, { cur := c, mid := m' })
    | .err h => (.err h, { cur := c, mid := m })
    | .panic => (.panic, { cur := c, mid := m })
    | .fuel => (.fuel, { cur := c, mid := m })
  -- on an error the Rust state keeps whatever was filled so far; the model keeps the start state's
  -- slots *plus* nothing else observable: `reset_to` clears them before the next use.
  | .err h => (.err h, s)
  | .panic => (.panic, s)
  | .fuel => (.fuel, s)

/-- `NarseseFormat::parse::<Narsese>` / `parse_chars` -/
def eparse (F : EFormat) (input : Str) : Res Narsese :=
  (F.runState { cur := Cur.ofEnv input, mid := {} }).1.toRes

/-- `NarseseFormat::parse_multi` -/
def parseMultiAux (F : EFormat) : PState → List Str → List (Res Narsese)
  | _, [] => []
  | s, i :: is =>
    let r := F.runState (resetTo s i)
    r.1.toRes :: parseMultiAux F r.2 is

def parseMulti (F : EFormat) (inputs : List Str) : List (Res Narsese) :=
  F.parseMultiAux { cur := Cur.ofEnv [], mid := {} } inputs

/-! ### side doors (`parse::<Truth|Budget|Stamp|Punctuation>`) -/

/-- the `ok_or(parser.parse_error(..))` after a successful consume builds the error eagerly -/
def eagerErr {α : Type} (c : Cur) (a : α) : PRes α := if windowOk c.len c.head then .ok a else .panic

def parseTruthDoor (F : EFormat) (input : Str) : Res Truth :=
  (match F.consumeTruth (Cur.ofEnv input) with
   | .ok (t, c) => eagerErr c t
   | .err h => .err h | .panic => .panic | .fuel => .fuel : PRes Truth).toRes

def parseBudgetDoor (F : EFormat) (input : Str) : Res Budget :=
  (match F.consumeBudget (Cur.ofEnv input) with
   | .ok (t, c) => eagerErr c t
   | .err h => .err h | .panic => .panic | .fuel => .fuel : PRes Budget).toRes

def parseStampDoor (F : EFormat) (input : Str) : Res Stamp :=
  if input.isEmpty then .ok .eternal else
  (match F.consumeStamp (Cur.ofEnv input) with
   | .ok (t, c) => eagerErr c t
   | .err h => .err h | .panic => .panic | .fuel => .fuel : PRes Stamp).toRes

def parsePunctDoor (F : EFormat) (input : Str) : Res Punct :=
  (match F.consumePunct (Cur.ofEnv input) with
   | .ok (t, c) => eagerErr c t
   | .err h => .err h | .panic => .panic | .fuel => .fuel : PRes Punct).toRes

end EFormat
end Narsese
